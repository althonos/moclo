import Moclo.Model.Assembly
import Moclo.Proofs.Lift
/-! Features with their citation entries erased: `f'.erase = f.erase` says "equal but for the citation entries"
(for records: and but for the reference list they index).  Dereferencing rewrites those entries and nothing else
(`derefRec_erase`), and whatever was done to them alone, restoring the snapshot undoes it (`restore_snapshot`). -/
namespace Moclo

theorem mapM_option_length {α β : Type} (f : α → Option β) :
    ∀ (l : List α) (l' : List β), l.mapM f = some l' → l'.length = l.length :=
  fun _ _ h => (List.mapM_eq_some_iff.mp h).length_eq.symm

def Feature.erase (f : Feature) : Feature := { f with cites := [] }

def Rec.erase (r : Rec) : Rec := { r with feats := r.feats.map Feature.erase, refs := [] }

@[simp] theorem Feature.erase_lo (f : Feature) : f.erase.lo = f.lo := rfl
@[simp] theorem Feature.erase_hi (f : Feature) : f.erase.hi = f.hi := rfl
@[simp] theorem Feature.erase_shift (f : Feature) (d : Int) : (f.shift d).erase = f.erase.shift d := rfl
@[simp] theorem Rec.erase_seq (r : Rec) : r.erase.seq = r.seq := rfl
@[simp] theorem Rec.erase_rid (r : Rec) : r.erase.rid = r.rid := rfl

theorem Feature.erase_eq_iff {f f' : Feature} : f'.erase = f.erase ↔ f' = { f with cites := f'.cites } := by
  cases f; cases f'; simp [Feature.erase]

@[simp] theorem derefCite_ref (refs : List Nat) (x : Nat) : derefCite refs (.ref x) = some (.ref x) := rfl

theorem derefCite_idx {refs : List Nat} {i : Nat} {c' : Cite} :
    derefCite refs (.idx i) = some c' ↔ 1 ≤ i ∧ ∃ x, refs[i-1]? = some x ∧ c' = .ref x := by
  cases i with
  | zero => simp [derefCite]
  | succ n => simp only [derefCite, Nat.succ_ne_zero, if_false, Option.map_eq_some_iff, eq_comm (a := c'),
      Nat.le_add_left, true_and]

theorem derefCite_isRef {refs : List Nat} {c c' : Cite} (h : derefCite refs c = some c') : ∃ x, c' = .ref x := by
  cases c with
  | ref x => exact ⟨x, (Option.some.inj h).symm⟩
  | idx i => obtain ⟨_, x, _, hx⟩ := derefCite_idx.mp h; exact ⟨x, hx⟩

theorem derefFeature_eq_some {refs : List Nat} {f f' : Feature} :
    derefFeature refs f = some f' ↔
      f' = { f with cites := f'.cites } ∧ List.Forall₂ (fun c c' => derefCite refs c = some c') f.cites f'.cites := by
  simp only [derefFeature, Option.map_eq_some_iff, List.mapM_eq_some_iff]
  exact ⟨by rintro ⟨cs, h, rfl⟩; exact ⟨rfl, h⟩, fun ⟨h1, h2⟩ => ⟨_, h2, h1.symm⟩⟩

theorem derefRec_eq_some {r r' : Rec} :
    derefRec r = some r' ↔
      r' = { r with feats := r'.feats } ∧ List.Forall₂ (fun f f' => derefFeature r.refs f = some f') r.feats r'.feats := by
  simp only [derefRec, Option.map_eq_some_iff, List.mapM_eq_some_iff]
  exact ⟨by rintro ⟨fs, h, rfl⟩; exact ⟨rfl, h⟩, fun ⟨h1, h2⟩ => ⟨_, h2, h1.symm⟩⟩

theorem derefRec_isSome_iff {r : Rec} :
    (derefRec r).isSome ↔ ∀ f ∈ r.feats, ∀ c ∈ f.cites, (derefCite r.refs c).isSome := by
  simp only [derefRec, derefFeature, Option.isSome_map, Option.isSome_iff_ne_none, ne_eq, List.mapM_eq_none_iff,
    Option.map_eq_none_iff, not_exists, not_and]

theorem derefRec_seq {r r' : Rec} (h : derefRec r = some r') : r'.seq = r.seq := by
  rw [(derefRec_eq_some.mp h).1]

theorem derefRec_erase {r r' : Rec} (h : derefRec r = some r') : r'.erase = r.erase := by
  obtain ⟨h1, h2⟩ := derefRec_eq_some.mp h
  have : r'.feats.map Feature.erase = r.feats.map Feature.erase :=
    (h2.imp fun f f' hf => (Feature.erase_eq_iff.mpr (derefFeature_eq_some.mp hf).1).symm).map_eq.symm
  rw [h1, Rec.erase, this]; rfl

theorem restore_snapshot {r r' : Rec} (he : r'.erase = r.erase) (hr : r'.refs = r.refs) :
    restore (snapshot r) r' = r := by
  obtain ⟨rid, seq, fs, refs⟩ := r
  obtain ⟨rid', seq', fs', refs'⟩ := r'
  simp only [Rec.erase, Rec.mk.injEq, and_true] at he
  obtain ⟨rfl, rfl, he⟩ := he
  subst hr
  -- feature by feature: equal but for the citation entries, and those are put back
  rw [← List.forall₂_eq_eq_eq, List.forall₂_map_left_iff, List.forall₂_map_right_iff] at he
  simp only [restore, snapshot, Rec.mk.injEq, true_and, and_true]
  induction he with
  | nil => rfl
  | cons h _ ih => exact congrArg₂ List.cons (Feature.erase_eq_iff.mp h.symm).symm ih

/-- **restore ∘ dereference = identity**: putting the snapshotted citation lists back gives exactly the
record that went in -/
theorem restore_deref {r r' : Rec} (h : derefRec r = some r') : restore (snapshot r) r' = r :=
  restore_snapshot (derefRec_erase h) (by rw [(derefRec_eq_some.mp h).1])

theorem restore_self (r : Rec) : restore (snapshot r) r = r := restore_snapshot rfl rfl

end Moclo
