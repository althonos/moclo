import Moclo.Model.Word
import Mathlib.Data.List.Rotate
import Mathlib.Data.List.Infix
/-! Circular words.  Mathlib's `List.rotate` is `<<`; `rotr` (`>>`) is its inverse (`rotr_eq_iff`), so the facts
about `>>` are read off Mathlib's lemmas on `rotate` instead of being computed modulo the length.  An integer amount
acts through its residue (`rotrI_congr`).  Then the one-turn window, `group` extraction and circular membership. -/
namespace Moclo
variable {α : Type}

theorem rotr_eq_rotate (w : List α) (k : Nat) : rotr w k = w.rotate (w.length - k % w.length) := by
  unfold rotr
  rw [List.rotate_eq_drop_append_take (Nat.sub_le _ _)]

@[simp] theorem rotr_length (w : List α) (k : Nat) : (rotr w k).length = w.length := by
  rw [rotr_eq_rotate, List.length_rotate]

theorem rotr_eq_iff {w v : List α} {k : Nat} : rotr w k = v ↔ v.rotate k = w := by
  rw [rotr_eq_rotate, eq_comm, List.rotate_eq_iff]

theorem rotate_rotr (w : List α) (k : Nat) : (rotr w k).rotate k = w := rotr_eq_iff.mp rfl

theorem rotr_rotate (w : List α) (k : Nat) : rotr (w.rotate k) k = w := rotr_eq_iff.mpr rfl

theorem rotate_eq_rotr (w : List α) (k : Nat) : w.rotate k = rotr w (w.length - k % w.length) := by
  have h := (List.rotate_eq_iff (l := w) (n := k)).mp rfl
  rw [List.length_rotate] at h
  exact (rotr_eq_iff.mpr h.symm).symm

theorem rotr_isRotated (w : List α) (k : Nat) : rotr w k ~r w := ⟨k, rotate_rotr w k⟩

@[simp] theorem rotr_nil (k : Nat) : rotr ([] : List α) k = [] := by simp [rotr]

theorem rotr_zero (w : List α) : rotr w 0 = w := rotr_eq_iff.mpr (List.rotate_zero w)

theorem rotr_mod (w : List α) (k : Nat) : rotr w (k % w.length) = rotr w k := by
  unfold rotr; simp

theorem rotr_spec (w : List α) (k : Nat) (hk : k ≤ w.length) :
    rotr w k = w.drop (w.length - k) ++ w.take (w.length - k) := by
  have h := List.rotate_append_length_eq (w.drop (w.length - k)) (w.take (w.length - k))
  rw [List.take_append_drop, List.length_drop, Nat.sub_sub_self hk] at h
  exact rotr_eq_iff.mpr h

theorem rotr_append_length (X Y : List α) : rotr (X ++ Y) Y.length = Y ++ X :=
  rotr_eq_iff.mpr (List.rotate_append_length_eq Y X)

theorem rotr_add (w : List α) (a b : Nat) : rotr (rotr w a) b = rotr w (a + b) := by
  apply (List.rotate_eq_rotate (n := a + b)).mp
  rw [rotate_rotr, Nat.add_comm a b, ← List.rotate_rotate, rotate_rotr, rotate_rotr]

theorem rotr_mul_length (w : List α) (m : Nat) : rotr w (m * w.length) = w := by
  unfold rotr; simp

theorem rotr_length_self (w : List α) : rotr w w.length = w := rotr_eq_iff.mpr (List.rotate_length w)

theorem rotr_getElem (w : List α) (k i : Nat) (hi : i < w.length) :
    (rotr w k)[(i + k) % w.length]'(by rw [rotr_length]; exact Nat.mod_lt _ (by omega)) = w[i] := by
  have h := List.getElem_rotate (rotr w k) k i (by simpa [rotate_rotr] using hi)
  simpa [rotate_rotr] using h.symm

/-- every position is where some letter went -/
theorem exists_add_mod_eq {n j : Nat} (hj : j < n) (k : Nat) : ∃ i, i < n ∧ (i + k) % n = j := by
  have hr := Nat.mod_lt k (Nat.zero_lt_of_lt hj)
  refine ⟨(j + (n - k % n)) % n, Nat.mod_lt _ (by omega), ?_⟩
  rw [Nat.mod_add_mod, ← Nat.add_mod_mod, Nat.add_assoc, Nat.sub_add_cancel hr.le, Nat.add_mod_right,
    Nat.mod_eq_of_lt hj]

theorem rotrI_congr (w : List α) {k k' : Int} (h : k % w.length = k' % w.length) : rotrI w k = rotrI w k' := by
  unfold rotrI; rw [show k.emod _ = k'.emod _ from h]

theorem rotrI_natCast (w : List α) (k : Nat) : rotrI w (k : Int) = rotr w k := by
  unfold rotrI
  rw [show (k : Int).emod w.length = _ from (Int.natCast_emod k w.length).symm, Int.toNat_natCast, rotr_mod]

@[simp] theorem rotrI_length (w : List α) (k : Int) : (rotrI w k).length = w.length := by
  unfold rotrI; simp

theorem rotrI_nil (k : Int) : rotrI ([] : List α) k = [] := by simp [rotrI]

theorem rotrI_add (w : List α) (a b : Int) : rotrI (rotrI w a) b = rotrI w (a + b) := by
  rcases Nat.eq_zero_or_pos w.length with h0 | hpos
  · rw [List.length_eq_zero_iff.mp h0]; simp [rotrI_nil]
  · -- fails on the empty word, hence the case split: `k % 0 = k` may be negative, and `toNat` cuts it to 0
    have cast : ∀ k : Int, ((k.emod w.length).toNat : Int) = k % w.length := fun k =>
      Int.toNat_of_nonneg (Int.emod_nonneg k (by omega))
    conv_lhs => unfold rotrI
    rw [rotr_length, rotr_add, ← rotrI_natCast]
    refine rotrI_congr w ?_
    rw [Int.natCast_add, cast, cast, ← Int.add_emod]

theorem rotrI_zero (w : List α) : rotrI w 0 = w := by
  unfold rotrI; exact rotr_zero w

theorem rotlI_eq (w : List α) (k : Int) : rotlI w k = rotrI w (-k) := rotrI_congr w (Int.emod_emod _ _)

theorem rotlI_rotrI (w : List α) (k : Int) : rotlI (rotrI w k) k = w := by
  rw [rotlI_eq, rotrI_add, Int.add_right_neg, rotrI_zero]

theorem rotrI_rotlI (w : List α) (k : Int) : rotrI (rotlI w k) k = w := by
  rw [rotlI_eq, rotrI_add, Int.add_left_neg, rotrI_zero]

theorem rotlI_eq_rotate (w : List α) (k : Int) : rotlI w k = w.rotate (k.emod w.length).toNat := by
  have h : rotrI (w.rotate (k.emod w.length).toNat) k = w := by
    unfold rotrI; rw [List.length_rotate]; exact rotr_rotate w _
  have := rotlI_rotrI (w.rotate (k.emod w.length).toNat) k
  rwa [h] at this

theorem rotlI_natCast_eq_rotate (w : List α) (k : Nat) : rotlI w (k : Int) = w.rotate k := by
  rw [rotlI_eq_rotate, ← List.rotate_mod w k]; rfl

theorem rotrI_mul_length (w : List α) (m : Int) : rotrI w (m * w.length) = w :=
  (rotrI_congr w (by rw [Int.mul_emod_left, Int.zero_emod])).trans (rotrI_zero w)

theorem rotrI_isRotated (w : List α) (k : Int) : rotrI w k ~r w := rotr_isRotated w _

theorem window_zero (w : List α) : window w 0 = w := by simp [window]

theorem window_eq_rotate (w : List α) (i : Nat) (hi : i ≤ w.length) : window w i = w.rotate i := by
  unfold window
  rw [List.rotate_eq_drop_append_take hi, List.drop_append_of_le_length hi, List.take_append]
  simp [List.length_drop, Nat.sub_sub_self hi]

theorem window_length (w : List α) (i : Nat) (hi : i ≤ w.length) : (window w i).length = w.length := by
  rw [window_eq_rotate w i hi, List.length_rotate]

theorem rotlI_add_eq_window (w : List α) (i a : Nat) (hi : i ≤ w.length) (ha : a ≤ w.length) :
    rotlI w ((a + i : Nat) : Int) = (window w i).drop a ++ (window w i).take a := by
  rw [rotlI_natCast_eq_rotate, Nat.add_comm, ← List.rotate_rotate, ← window_eq_rotate w i hi,
    List.rotate_eq_drop_append_take (by rw [window_length w i hi]; exact ha)]

theorem window_rotr (w : List α) (k i : Nat) (hi : i < w.length) :
    window (rotr w k) ((i + k) % w.length) = window w i := by
  have hlt := Nat.mod_lt (i + k) (Nat.zero_lt_of_lt hi)
  rw [window_eq_rotate _ _ (by rw [rotr_length]; omega), window_eq_rotate _ _ (by omega)]
  conv_rhs => rw [← rotate_rotr w k, List.rotate_rotate, Nat.add_comm, ← List.rotate_mod, rotr_length]

/-- every reported group is the Python slice of the doubled text, whatever the span -/
theorem group_spec (w : List α) (a b : Nat) (hb : b < 2 * w.length) : group w a b = pySlice (w ++ w) a b := by
  have e : ∀ c, w.length ≤ c → c ≤ b → c % w.length = c - w.length := fun c h1 h2 => by
    rw [Nat.mod_eq_sub_mod h1, Nat.mod_eq_of_lt (by omega)]
  unfold group pySlice
  split_ifs with h1 h2
  · -- both ends in the second copy
    rw [e a h1.2 h1.1, e b (h1.2.trans h1.1) (Nat.le_refl b), List.drop_append, List.drop_eq_nil_of_le h1.2,
      List.nil_append, Nat.sub_sub_sub_cancel_right h1.2]
  · -- the span straddles the junction
    rw [e b h2.1 (Nat.le_refl b), List.drop_append_of_le_length (Nat.le_of_lt h2.2), List.take_append,
      List.length_drop, List.take_of_length_le (l := w.drop a) (by rw [List.length_drop]; exact Nat.sub_le_sub_right h2.1 a),
      Nat.sub_sub_sub_cancel_right (Nat.le_of_lt h2.2)]
  · -- empty, or inside the first copy
    rw [List.drop_append, List.take_append_of_le_length (by rw [List.length_drop]; omega)]

theorem isInfixB_iff [BEq α] [LawfulBEq α] (q w : List α) : isInfixB q w = true ↔ q <:+: w := by
  induction w with
  | nil => simp [isInfixB, List.infix_nil]
  | cons x xs ih =>
    simp only [isInfixB, Bool.or_eq_true, ih, List.isPrefixOf_iff_prefix]
    exact (List.infix_cons_iff).symm

theorem rotate_infix_double (w : List α) (k : Nat) : w.rotate k <:+: w ++ w := by
  rw [List.rotate_eq_drop_append_take_mod]
  refine ⟨w.take (k % w.length), w.drop (k % w.length), ?_⟩
  rw [← List.append_assoc, List.take_append_drop, List.append_assoc, List.take_append_drop]

theorem infix_double_rotate (w q : List α) (hq : q.length ≤ w.length) (h : q <:+: w ++ w) :
    ∃ k, q <:+: w.rotate k := by
  obtain ⟨s, t, hst⟩ := h
  have hd : q <+: (w ++ w).drop s.length := ⟨t, by rw [← hst, List.append_assoc, List.drop_left]⟩
  rcases Nat.le_total s.length w.length with hi | hi
  · -- `q` starts in the first copy: it fits into the one-turn window there, which is a rotation
    refine ⟨s.length, ?_⟩
    rw [← window_eq_rotate w _ hi]
    exact (List.prefix_take_iff.mpr ⟨hd, hq⟩).isInfix
  · -- `q` starts in the second copy: it lies in `w` itself
    rw [List.drop_append, List.drop_eq_nil_of_le hi, List.nil_append] at hd
    exact ⟨0, by rw [List.rotate_zero]; exact hd.isInfix.trans (List.drop_suffix _ _).isInfix⟩

theorem ccontains_iff [BEq α] [LawfulBEq α] (w q : List α) :
    ccontains w q = true ↔ q.length ≤ w.length ∧ ∃ k, q <:+: w.rotate k := by
  unfold ccontains
  simp only [Bool.and_eq_true, decide_eq_true_eq, isInfixB_iff]
  constructor
  · rintro ⟨h1, h2⟩; exact ⟨h1, infix_double_rotate w q h1 h2⟩
  · rintro ⟨h1, k, h2⟩; exact ⟨h1, h2.trans (rotate_infix_double w k)⟩

theorem ccontains_congr [BEq α] [LawfulBEq α] {w w' : List α} (h : w ~r w') (q : List α) :
    ccontains w q = ccontains w' q := by
  have one : ∀ {u v : List α}, u ~r v → ccontains u q = true → ccontains v q = true := by
    intro u v huv
    rw [ccontains_iff, ccontains_iff, huv.perm.length_eq]
    rintro ⟨hl, k, hk⟩
    obtain ⟨j, hj⟩ := huv.symm.trans ⟨k, rfl⟩
    exact ⟨hl, j, hj ▸ hk⟩
  exact Bool.eq_iff_iff.mpr ⟨one h, one h.symm⟩

theorem ccontains_rotrI [BEq α] [LawfulBEq α] (w q : List α) (k : Int) :
    ccontains (rotrI w k) q = ccontains w q := ccontains_congr (rotrI_isRotated w k) q

end Moclo
