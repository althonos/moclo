import Moclo.Model.Alphabet
import Moclo.Proofs.Word
/-! The letter table, read row by row (`clsMatch` is membership in the row of the pattern letter), and reverse
complement of words (`rc`) and of recognition sites (`rcNt`, bare codes): an involution that reverses concatenation
and exchanges `<<` with `>>`. -/
namespace Moclo

theorem compl_compl (x : Nt) : x.compl.compl = x := by cases x <;> rfl

theorem sym_compl_compl (x : Sym) : x.compl.compl = x := by
  cases x; simp [Sym.compl, compl_compl]

theorem clsMatch_iff_mem {c : Nt} {x : Sym} : clsMatch c x = true ↔ x.nt ∈ lettermap c := List.contains_iff_mem

theorem clsMatch_sub_N (u : Nt) (x : Sym) (h : clsMatch u x = true) : clsMatch .N x = true := by
  have sub : ∀ n ∈ lettermap u, n ∈ lettermap .N := by cases u <;> decide
  exact clsMatch_iff_mem.mpr (sub _ (clsMatch_iff_mem.mp h))

theorem clsMatch_base_iff (p : Nt) (x : Sym) (hp : p.isBase = true) : clsMatch p x = true ↔ x.nt = p := by
  have row : lettermap p = [p] := by cases p <;> first | rfl | cases hp
  rw [clsMatch_iff_mem, row, List.mem_singleton]

theorem clsMatch_compl (c : Nt) (x : Sym) : clsMatch c.compl x.compl = clsMatch c x := by
  -- complementing a pattern letter complements every letter it stands for; used for `c` and for `c.compl`
  have key : ∀ c : Nt, ∀ m ∈ lettermap c.compl, m.compl ∈ lettermap c := by intro c; cases c <;> decide
  rw [Bool.eq_iff_iff, clsMatch_iff_mem, clsMatch_iff_mem]
  refine ⟨fun h => ?_, fun h => key c.compl _ (by rwa [compl_compl])⟩
  have := key c _ h
  rwa [show x.compl.nt = x.nt.compl from rfl, compl_compl] at this

theorem rc_rc (w : Word) : rc (rc w) = w := by
  simp [rc, Function.comp_def, sym_compl_compl]

@[simp] theorem rc_length (w : Word) : (rc w).length = w.length := by simp [rc]

theorem rc_append (a b : Word) : rc (a ++ b) = rc b ++ rc a := by simp [rc]

theorem rc_cons (x : Sym) (xs : Word) : rc (x :: xs) = rc xs ++ [x.compl] := by simp [rc]

theorem mem_rc {y : Sym} {A : Word} : y ∈ rc A ↔ ∃ x ∈ A, x.compl = y := by simp [rc]

theorem rc_isRotated {w w' : Word} (h : w ~r w') : rc w ~r rc w' := by
  unfold rc; exact (h.map _).reverse

theorem rc_rotate (w : Word) (k : Nat) : rc (w.rotate k) = rotr (rc w) k := by
  rw [rotr_eq_rotate, rc_length]
  unfold rc
  rw [List.map_rotate, List.reverse_rotate, List.length_map]

theorem rc_rotr (w : Word) (k : Nat) : rc (rotr w k) = (rc w).rotate k := by
  conv_rhs => rw [← rotate_rotr w k, rc_rotate, rotate_rotr]

@[simp] theorem rcNt_length (s : List Nt) : (rcNt s).length = s.length := by simp [rcNt]

theorem rcNt_rcNt (s : List Nt) : rcNt (rcNt s) = s := by
  simp [rcNt, List.map_reverse, Function.comp_def, compl_compl]

theorem rcNt_map_rc (seg : Word) : (rc seg).map (·.nt) = rcNt (seg.map (·.nt)) := by
  simp [rc, rcNt, List.map_reverse, List.map_map, Function.comp_def, Sym.compl]

theorem rcNt_all_isBase {s : List Nt} (h : s.all Nt.isBase = true) : (rcNt s).all Nt.isBase = true := by
  have hc : ∀ x : Nt, x.compl.isBase = x.isBase := by intro x; cases x <;> rfl
  simpa [rcNt, Function.comp_def, hc] using h

end Moclo
