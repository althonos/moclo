import Moclo.Model.Feature
import Moclo.Proofs.Word
/-! Denotation of feature locations (positions modulo the record length) under rotation and reverse complement.
A position `x` is covered iff one of its lifts `x + n * q` lies in `[s, e)` (`covers_iff`): the form in which shifts and
flips are linear arithmetic.  What `>>` does to one part is a shift by `k` minus whole turns (`Part.rotr_eq_shift`),
whichever branch `renorm` takes, so its denotation moves by `k` (`covers_shift`).  Then `>>` field by field, so that
no proof has to unfold it; the flip of a part; `sortByLo` permutes; `minI`/`maxI` as bounds. -/
namespace Moclo

theorem covers_iff (n : Nat) (p : Part) (x : Nat) (hx : x < n) :
    p.covers n x ↔ ∃ q : Int, p.s ≤ x + n * q ∧ x + n * q < p.e := by
  constructor
  · rintro ⟨t, h1, h2, h3⟩
    have e : x + n * (t / n) = t := by rw [← h3]; exact Int.emod_add_mul_ediv t n
    exact ⟨t / n, e.symm ▸ h1, e.symm ▸ h2⟩
  · rintro ⟨q, h1, h2⟩
    exact ⟨_, h1, h2, (Int.add_mul_emod_self_left _ _ _).trans (Int.emod_eq_of_lt (by omega) (by omega))⟩

theorem Part.rotr_eq_shift (n k : Int) (p : Part) : ∃ r : Int, (p.shift k).renorm n = p.shift (k - r * n) := by
  unfold Part.renorm
  split
  · exact ⟨(p.shift k).s / n, by simp only [Part.shift, Int.add_sub_assoc]⟩
  · exact ⟨0, by rw [Int.zero_mul, Int.sub_zero]⟩

theorem Part.renorm_of_ge {n : Int} {p : Part} (h : p.e ≥ n ∧ p.s ≥ n) :
    p.renorm n = { p with s := p.s % n, e := p.e - p.s + p.s % n } := by
  unfold Part.renorm
  rw [if_pos h, Int.emod_def, Int.mul_comm]
  simp only [Part.mk.injEq, true_and, and_true]
  omega

theorem covers_shift (n k : Nat) (r : Int) (p : Part) (x : Nat) (hx : x < n) :
    (p.shift (k - r * n)).covers n ((x + k) % n) ↔ p.covers n x := by
  have hdiv : ((x : Int) + k) = ((x + k) % n : Nat) + n * (((x + k) / n : Nat) : Int) := by
    exact_mod_cast (Nat.mod_add_div (x + k) n).symm
  -- the lift `q` of `x` goes to the lift `q + (x + k) / n - r` of `(x + k) % n`
  have sur : Function.Surjective (fun q : Int => q + (((x + k) / n : Nat) - r)) := fun q =>
    ⟨_, Int.sub_add_cancel q _⟩
  rw [covers_iff n _ _ (Nat.mod_lt _ (by omega)), covers_iff n _ _ hx, sur.exists]
  refine exists_congr fun q => ?_
  simp only [Part.shift, Int.mul_add, Int.mul_sub, Int.mul_comm (n : Int) r]; omega

theorem covers_rotr_part (n : Nat) (k : Nat) (p : Part) (x : Nat) (hx : x < n) :
    ((p.shift k).renorm n).covers n ((x + k) % n) ↔ p.covers n x := by
  obtain ⟨r, hr⟩ := Part.rotr_eq_shift n k p
  rw [hr]; exact covers_shift n k r p x hx

theorem covers_lt {n : Nat} {p : Part} {x : Nat} (hn : 0 < n) (h : p.covers n x) : x < n := by
  obtain ⟨t, _, _, h3⟩ := h
  have := Int.emod_lt_of_pos t (show (0 : Int) < n by omega)
  have h3' : t % (n : Int) = x := h3
  omega

theorem covers_rotr_image (n k : Nat) (p : Part) (y : Nat) (hn : 0 < n) :
    ((p.shift k).renorm n).covers n y ↔ ∃ x, x < n ∧ p.covers n x ∧ (x + k) % n = y := by
  constructor
  · intro h
    obtain ⟨x, hx, rfl⟩ := exists_add_mod_eq (covers_lt hn h) k
    exact ⟨x, hx, (covers_rotr_part n k p x hx).mp h, rfl⟩
  · rintro ⟨x, hx, h, rfl⟩
    exact (covers_rotr_part n k p x hx).mpr h

theorem covers_of_inside (n : Nat) (p : Part) (y : Nat) (h0 : 0 ≤ p.s) (h1 : p.e ≤ n) :
    p.covers n y ↔ p.s ≤ y ∧ y < p.e := by
  constructor
  · rintro ⟨t, t1, t2, t3⟩
    obtain rfl : t = y := (Int.emod_eq_of_lt (by omega) (by omega)).symm.trans t3
    exact ⟨t1, t2⟩
  · rintro ⟨a, b⟩
    exact ⟨y, a, b, Int.emod_eq_of_lt (by omega) (by omega)⟩

theorem covers_whole (n : Nat) (p : Part) (hs : p.s = 0) (he : p.e = n) (x : Nat) (hx : x < n) :
    p.covers n x :=
  (covers_of_inside n p x (by omega) (by omega)).mpr ⟨by omega, by omega⟩

theorem covers_flip (n : Nat) (p : Part) (x : Nat) (hx : x < n) :
    (p.flip n).covers n (n - 1 - x) ↔ p.covers n x := by
  -- the lift `q` of `x` goes to the lift `-q` of `n - 1 - x`
  have neg : Function.Surjective (fun q : Int => -q) := fun q => ⟨-q, Int.neg_neg q⟩
  rw [covers_iff n _ _ (show n - 1 - x < n by omega), covers_iff n _ _ hx,
    show ((n - 1 - x : Nat) : Int) = (n : Int) - 1 - x by omega, neg.exists]
  refine exists_congr fun q => ?_
  simp only [Part.flip, Int.mul_neg]; omega

/-- rotation re-locates a feature and changes nothing else -/
theorem Feature.rotr_eq (n k : Nat) (f : Feature) : f.rotr n k = { f with parts := (f.rotr n k).parts } := by
  unfold Feature.rotr; split <;> rfl

@[simp] theorem Feature.rotr_ftype (n k : Nat) (f : Feature) : (f.rotr n k).ftype = f.ftype := by
  rw [Feature.rotr_eq]
@[simp] theorem Feature.rotr_qual (n k : Nat) (f : Feature) : (f.rotr n k).qual = f.qual := by
  rw [Feature.rotr_eq]
@[simp] theorem Feature.rotr_cites (n k : Nat) (f : Feature) : (f.rotr n k).cites = f.cites := by
  rw [Feature.rotr_eq]

theorem Feature.rotr_parts (n k : Nat) (f : Feature) :
    (f.rotr n k).parts = if f.ftype = 0 ∧ f.parts.length = 1 ∧ f.lo = 0 ∧ f.hi = n then f.parts
      else f.parts.map (fun p => (p.shift k).renorm n) := by
  unfold Feature.rotr; split <;> rfl

theorem Rec.rotr_eq (r : Rec) (k : Int) : r.rotr k = { r with seq := rotrI r.seq k, feats := (r.rotr k).feats } := by
  unfold Rec.rotr rotrI
  simp only []
  split
  · -- a whole number of turns returns the record itself
    rename_i h; rw [h, rotr_zero]
  · rfl

@[simp] theorem Rec.rotr_rid (r : Rec) (k : Int) : (r.rotr k).rid = r.rid := by
  rw [Rec.rotr_eq]
@[simp] theorem Rec.rotr_refs (r : Rec) (k : Int) : (r.rotr k).refs = r.refs := by
  rw [Rec.rotr_eq]
theorem Rec.rotr_seq (r : Rec) (k : Int) : (r.rotr k).seq = rotrI r.seq k := by
  rw [Rec.rotr_eq]

@[simp] theorem Rec.slice_seq (r : Rec) (a b : Nat) : (r.slice a b).seq = pySlice r.seq a b := rfl
@[simp] theorem Rec.append_seq (x y : Rec) : (x.append y).seq = x.seq ++ y.seq := rfl

theorem Rec.rotl_seq (r : Rec) (k : Int) : (r.rotl k).seq = rotlI r.seq k := by
  unfold Rec.rotl rotlI; exact Rec.rotr_seq r _

theorem Rec.rotr_feats (r : Rec) (k : Int) :
    (r.rotr k).feats =
      if (k.emod r.seq.length).toNat = 0 then r.feats
      else r.feats.map (Feature.rotr r.seq.length (k.emod r.seq.length).toNat) := by
  unfold Rec.rotr
  simp only []
  split <;> rfl

theorem flip_flip (n : Int) (p : Part) : (p.flip n).flip n = p := by
  cases p; simp only [Part.flip, Part.mk.injEq]; omega

theorem flip_strand (n : Int) (p : Part) : (p.flip n).strand = -p.strand := rfl

theorem insertByLo_perm (g : Feature) (l : List Feature) : (insertByLo g l).Perm (g :: l) := by
  induction l with
  | nil => exact List.Perm.refl _
  | cons h t ih =>
    simp only [insertByLo]
    split
    · exact List.Perm.refl _
    · exact (List.Perm.cons h ih).trans (List.Perm.swap g h t)

theorem sortByLo_perm (fs : List Feature) : (sortByLo fs).Perm fs := by
  induction fs with
  | nil => exact List.Perm.refl _
  | cons f fs ih => exact (insertByLo_perm f _).trans (List.Perm.cons f ih)

theorem minI_ge {l : List Int} (hne : l ≠ []) (c : Int) : c ≤ minI l ↔ ∀ x ∈ l, c ≤ x := by
  fun_induction minI l with
  | case1 => exact absurd rfl hne
  | case2 x => exact List.forall_mem_singleton.symm
  | case3 x xs hxs ih => rw [Int.le_min, ih hxs]; exact List.forall_mem_cons.symm

theorem maxI_le {l : List Int} (hne : l ≠ []) (c : Int) : maxI l ≤ c ↔ ∀ x ∈ l, x ≤ c := by
  fun_induction maxI l with
  | case1 => exact absurd rfl hne
  | case2 x => exact (List.forall_mem_singleton (p := (· ≤ c))).symm
  | case3 x xs hxs ih => rw [Int.max_le, ih hxs]; exact (List.forall_mem_cons (p := (· ≤ c))).symm

end Moclo
