import Moclo.Proofs.View
/-! Pieces of a structure: star-free pieces (letters and group boundaries, no wildcard run) run in one way
only, and every MoClo structure is `fixed piece · wildcard run · fixed piece`. -/
namespace Moclo

def starFree : Pat → Bool
  | [] => true
  | .star _ _ :: _ => false
  | _ :: ts => starFree ts

/-- number of letters a star-free piece consumes -/
def width : Pat → Nat
  | [] => 0
  | .cls _ :: ts => width ts + 1
  | _ :: ts => width ts

def letters : Pat → List Nt
  | [] => []
  | .cls c :: ts => c :: letters ts
  | _ :: ts => letters ts

/-- the group boundaries a star-free piece records when it starts at `p` -/
def fmarks : Pat → Nat → List Nat
  | [], _ => []
  | .cls _ :: ts, p => fmarks ts (p + 1)
  | .star _ _ :: ts, p => fmarks ts p
  | .gopen :: ts, p => p :: fmarks ts p
  | .gclose :: ts, p => p :: fmarks ts p

def markless (p : Pat) : Prop := ∀ t ∈ p, t.isMark = false

/-- letterwise match of a list of classes against the head of a text -/
def matchesAt (cs : List Nt) (xs : Word) : Prop := cs.length ≤ xs.length ∧ ∀ j (h : j < cs.length) (h' : j < xs.length), clsMatch cs[j] xs[j] = true

@[simp] theorem letters_append (a b : Pat) : letters (a ++ b) = letters a ++ letters b := by
  induction a with
  | nil => rfl
  | cons t ts ih => cases t <;> simp [letters, ih]

@[simp] theorem letters_lits (s : List Nt) : letters (lits s) = s := by
  induction s with
  | nil => rfl
  | cons x xs ih => simpa [lits, letters] using ih

@[simp] theorem letters_nRun (k : Nat) : letters (nRun k) = List.replicate k .N := by
  rw [show nRun k = lits (List.replicate k .N) from List.map_replicate.symm, letters_lits]

theorem letters_length (f : Pat) : (letters f).length = width f := by
  induction f with
  | nil => rfl
  | cons t ts ih => cases t <;> simp [letters, width, ih]

@[simp] theorem width_append (a b : Pat) : width (a ++ b) = width a + width b := by
  simp [← letters_length]

@[simp] theorem width_lits (s : List Nt) : width (lits s) = s.length := by simp [← letters_length]

@[simp] theorem width_nRun (n : Nat) : width (nRun n) = n := by simp [← letters_length]

@[simp] theorem starFree_append (a b : Pat) : starFree (a ++ b) = (starFree a && starFree b) := by
  induction a with
  | nil => simp [starFree]
  | cons t ts ih => cases t <;> simp [starFree, ih]

@[simp] theorem fmarks_append (a b : Pat) (p : Nat) : fmarks (a ++ b) p = fmarks a p ++ fmarks b (p + width a) := by
  induction a generalizing p with
  | nil => simp [fmarks, width]
  | cons t ts ih => cases t <;> simp [fmarks, width, ih, Nat.add_assoc, Nat.add_comm 1]

theorem markless_append {a b : Pat} (ha : markless a) (hb : markless b) : markless (a ++ b) :=
  fun t ht => (List.mem_append.mp ht).elim (ha t) (hb t)

theorem nmarks_append (a b : Pat) : nmarks (a ++ b) = nmarks a + nmarks b := by
  induction a with
  | nil => simp [nmarks]
  | cons t ts ih => cases t <;> simp [nmarks, ih] <;> omega

theorem markless_of_all {p : Pat} (h : p.all (fun t => !t.isMark) = true) : markless p :=
  fun t ht => by simpa using List.all_eq_true.mp h t ht

theorem fmarks_of_markless {f : Pat} (hm : markless f) (p : Nat) : fmarks f p = [] := by
  induction f generalizing p with
  | nil => rfl
  | cons t ts ih =>
    have ht := hm t (by simp)
    have := fun p => ih (fun t ht => hm t (List.mem_cons_of_mem _ ht)) p
    cases t <;> simp_all [fmarks, Tok.isMark]

theorem isFixed_spec {n : Nat} {g : Pat} (h : isFixed n g = true) : starFree g = true ∧ width g = n ∧ markless g := by
  simp only [isFixed, Bool.and_eq_true, beq_iff_eq] at h
  obtain ⟨rfl, hall⟩ := h
  induction g with
  | nil => exact ⟨rfl, rfl, fun t ht => by simp at ht⟩
  | cons t ts ih =>
    simp only [List.all_cons, Bool.and_eq_true] at hall
    cases t with
    | cls c =>
      obtain ⟨a, b, c'⟩ := ih hall.2
      exact ⟨a, by simp [width, b], fun t ht' => (List.mem_cons.mp ht').elim (· ▸ rfl) (c' t)⟩
    | _ => simp at hall

theorem isFixed_lits (s : List Nt) : isFixed s.length (lits s) = true := by simp [isFixed, lits]

theorem isFixed_nRun (k : Nat) : isFixed k (nRun k) = true := by simp [isFixed, nRun]

@[simp] theorem starFree_lits (s : List Nt) : starFree (lits s) = true := (isFixed_spec (isFixed_lits s)).1

@[simp] theorem starFree_nRun (n : Nat) : starFree (nRun n) = true := (isFixed_spec (isFixed_nRun n)).1

theorem markless_lits (s : List Nt) : markless (lits s) := (isFixed_spec (isFixed_lits s)).2.2

theorem markless_nRun (n : Nat) : markless (nRun n) := (isFixed_spec (isFixed_nRun n)).2.2

@[simp] theorem fmarks_lits (s : List Nt) (p : Nat) : fmarks (lits s) p = [] := fmarks_of_markless (markless_lits s) p

@[simp] theorem fmarks_nRun (n p : Nat) : fmarks (nRun n) p = [] := fmarks_of_markless (markless_nRun n) p

theorem matchesAt_nil (xs : Word) : matchesAt [] xs := ⟨Nat.zero_le _, fun _ h => absurd h (Nat.not_lt_zero _)⟩

theorem matchesAt_cons {c : Nt} {cs : List Nt} {x : Sym} {xs : Word} :
    matchesAt (c :: cs) (x :: xs) ↔ clsMatch c x = true ∧ matchesAt cs xs := by
  constructor
  · rintro ⟨h1, h2⟩
    refine ⟨h2 0 (by simp) (by simp), by simpa using h1, fun j hj hj' => ?_⟩
    have := h2 (j + 1) (by simpa using hj) (by simpa using hj')
    simpa only [List.getElem_cons_succ] using this
  · rintro ⟨hc, h1, h2⟩
    refine ⟨by simpa using h1, fun j hj hj' => ?_⟩
    cases j with
    | zero => simpa using hc
    | succ j => simpa using h2 j (by simpa using hj) (by simpa using hj')

theorem matchesAt_cons_nil {c : Nt} {cs : List Nt} : ¬ matchesAt (c :: cs) [] := fun h => by simpa using h.1

theorem matchesAt_append_iff {a b : List Nt} {xs : Word} :
    matchesAt (a ++ b) xs ↔ matchesAt a xs ∧ matchesAt b (xs.drop a.length) := by
  induction a generalizing xs with
  | nil => simp [matchesAt_nil]
  | cons c cs ih =>
    cases xs with
    | nil => simp [matchesAt_cons_nil]
    | cons x xs => simp [matchesAt_cons, ih, and_assoc]

theorem matchesAt_replicate_iff {c : Nt} {n : Nat} {xs : Word} :
    matchesAt (List.replicate n c) xs ↔ n ≤ xs.length ∧ ∀ x ∈ xs.take n, clsMatch c x = true := by
  induction n generalizing xs with
  | zero => simp [matchesAt_nil]
  | succ n ih =>
    cases xs with
    | nil => simp [List.replicate_succ, matchesAt_cons_nil]
    | cons x xs => simp [List.replicate_succ, matchesAt_cons, ih, and_left_comm]

theorem matchesAt_take (cs : List Nt) (ys : Word) (m : Nat) (hm : cs.length ≤ m) :
    matchesAt cs (ys.take m) ↔ matchesAt cs ys := by
  induction cs generalizing ys m with
  | nil => simp [matchesAt_nil]
  | cons c cs ih =>
    obtain ⟨m, rfl⟩ : ∃ m', m = m' + 1 := ⟨m - 1, by simp at hm; omega⟩
    cases ys with
    | nil => simp
    | cons y ys => simp [matchesAt_cons, ih ys m (by simpa using hm)]

theorem matchesAt_slice (cs : List Nt) (text : Word) (a : Nat) :
    matchesAt cs (slice text a (a + cs.length)) ↔ matchesAt cs (text.drop a) := by
  unfold slice; rw [Nat.add_sub_cancel_left]; exact matchesAt_take _ _ _ (Nat.le_refl _)

theorem matchesAt_extend {cs : List Nt} {xs : Word} (h : matchesAt cs xs) (ys : Word) : matchesAt cs (xs ++ ys) := by
  rw [← matchesAt_take cs _ xs.length h.1]; simpa using h

theorem matchesAt_append_left {a b : List Nt} {xs : Word} (h : matchesAt (a ++ b) xs) : matchesAt a xs :=
  (matchesAt_append_iff.mp h).1

theorem matchesAt_append_right {a b : List Nt} {xs : Word} (h : matchesAt (a ++ b) xs) :
    matchesAt b (xs.drop a.length) := (matchesAt_append_iff.mp h).2

theorem matchesAt_append {a b : List Nt} {xs ys : Word} (ha : matchesAt a xs) (hl : xs.length = a.length)
    (hb : matchesAt b ys) : matchesAt (a ++ b) (xs ++ ys) :=
  matchesAt_append_iff.mpr ⟨matchesAt_extend ha ys, by simpa [← hl] using hb⟩

theorem matchesAt_append_exists {A B : List Nt} {l : Word} (h : matchesAt (A ++ B) l) :
    ∃ x y, l = x ++ y ∧ x.length = A.length ∧ matchesAt A x ∧ matchesAt B y := by
  obtain ⟨h1, h2⟩ := matchesAt_append_iff.mp h
  exact ⟨l.take A.length, l.drop A.length, (List.take_append_drop _ _).symm,
    by rw [List.length_take]; exact Nat.min_eq_left h1.1,
    (matchesAt_take _ _ _ (Nat.le_refl _)).mpr h1, h2⟩

theorem matchesAt_replicate {c : Nt} {A : Word} (h : ∀ x ∈ A, clsMatch c x = true) :
    matchesAt (List.replicate A.length c) A :=
  matchesAt_replicate_iff.mpr ⟨Nat.le_refl _, by simpa using h⟩

theorem Run.starFree_iff {f : Pat} {xs : Word} {p : Nat} {ms : List Nat} {e : Nat} (hf : starFree f = true) :
    Run f xs p ms e ↔ matchesAt (letters f) xs ∧ ms = fmarks f p ∧ e = p + width f := by
  induction f generalizing xs p ms with
  | nil => simp [Run.nil_iff, letters, fmarks, width, matchesAt_nil]
  | cons t ts ih =>
    cases t with
    | cls c =>
      rw [Run.cls_iff]
      cases xs with
      | nil => simp [letters, matchesAt_cons_nil]
      | cons x xs =>
        simp [letters, fmarks, width, matchesAt_cons, ih (by simpa [starFree] using hf), Nat.add_assoc, Nat.add_comm 1,
          and_assoc]
    | star c g => simp [starFree] at hf
    | gopen | gclose =>
      simp only [Run.gopen_iff, Run.gclose_iff, letters, fmarks, width, ih (show starFree ts = true from hf)]
      exact ⟨fun ⟨_, h, m, hm, he⟩ => ⟨m, hm ▸ h, he⟩, fun ⟨m, h, he⟩ => ⟨_, h, m, rfl, he⟩⟩

theorem Run.fixed {f : Pat} {xs : Word} {p : Nat} {ms : List Nat} {e : Nat} (hf : starFree f = true)
    (h : Run f xs p ms e) : e = p + width f ∧ matchesAt (letters f) xs :=
  let ⟨a, _, c⟩ := (Run.starFree_iff hf).mp h; ⟨c, a⟩

theorem Run.width_le {ts : Pat} {xs : Word} {p : Nat} {ms : List Nat} {e : Nat} (h : Run ts xs p ms e) :
    p + width ts ≤ e := by
  induction h with
  | nil => exact Nat.le_refl _
  | cls _ _ ih => simp only [width]; omega
  | gopen _ ih | gclose _ ih => exact ih
  | star j _ _ _ ih => simp only [width]; omega

theorem Run.fixed_take {f : Pat} {xs : Word} {p : Nat} {ms : List Nat} {e : Nat} (hf : starFree f = true)
    (h : Run f xs p ms e) :
    matchesAt (letters f) (xs.take (e - p)) ∧ (xs.take (e - p)).length = (letters f).length := by
  obtain ⟨rfl, m⟩ := h.fixed hf
  rw [Nat.add_sub_cancel_left, ← letters_length]
  exact ⟨(matchesAt_take _ _ _ (Nat.le_refl _)).mpr m, List.length_take_of_le m.1⟩

theorem Run.of_matches {f : Pat} {xs : Word} (p : Nat) (hs : starFree f = true) (hm : markless f)
    (h : matchesAt (letters f) xs) : Run f xs p [] (p + width f) :=
  (Run.starFree_iff hs).mpr ⟨h, (fmarks_of_markless hm p).symm, rfl⟩

theorem Run.markless_ms {f : Pat} {xs : Word} {p : Nat} {ms : List Nat} {e : Nat} (hf : markless f)
    (h : Run f xs p ms e) : ms = [] := by
  induction h with
  | nil => rfl
  | cls _ _ ih => exact ih (fun t ht => hf t (List.mem_cons_of_mem _ ht))
  | gopen _ _ => exact absurd (hf Tok.gopen (by simp)) (by simp [Tok.isMark])
  | gclose _ _ => exact absurd (hf Tok.gclose (by simp)) (by simp [Tok.isMark])
  | star _ _ _ _ ih => exact ih (fun t ht => hf t (List.mem_cons_of_mem _ ht))

theorem Run.starFree_append_iff {f b : Pat} {xs : Word} {p : Nat} {ms : List Nat} {e : Nat} (hf : starFree f = true) :
    Run (f ++ b) xs p ms e ↔
      matchesAt (letters f) xs ∧ ∃ msB, Run b (xs.drop (width f)) (p + width f) msB e ∧ ms = fmarks f p ++ msB := by
  rw [Run.append_iff]
  constructor
  · rintro ⟨mid, msA, msB, h1, h2, h3⟩
    obtain ⟨m, rfl, rfl⟩ := (Run.starFree_iff hf).mp h1
    exact ⟨m, msB, by simpa using h2, h3⟩
  · rintro ⟨m, msB, h2, h3⟩
    exact ⟨_, _, msB, (Run.starFree_iff hf).mpr ⟨m, rfl, rfl⟩, by simpa using h2, h3⟩

theorem Run.fixed_star_fixed_iff {F1 F2 : Pat} {c : Nt} {g : Bool} {xs : Word} {p : Nat} {ms : List Nat} {e : Nat}
    (s1 : starFree F1 = true) (s2 : starFree F2 = true) :
    Run (F1 ++ .star c g :: F2) xs p ms e ↔
      ∃ j, e = p + width F1 + j + width F2 ∧ ms = fmarks F1 p ++ fmarks F2 (p + width F1 + j) ∧
        matchesAt (letters F1) xs ∧ width F1 + j ≤ xs.length ∧
        (∀ x ∈ (xs.drop (width F1)).take j, clsMatch c x = true) ∧
        matchesAt (letters F2) (xs.drop (width F1 + j)) := by
  simp only [Run.starFree_append_iff s1, Run.star_iff, Run.starFree_iff s2, List.drop_drop, List.length_drop]
  constructor
  · rintro ⟨m1, _, ⟨j, hj, ha, m2, rfl, rfl⟩, rfl⟩
    exact ⟨j, rfl, rfl, m1, by have := m1.1; rw [letters_length] at this; omega, ha, m2⟩
  · rintro ⟨j, rfl, rfl, m1, hj, ha, m2⟩
    exact ⟨m1, _, ⟨j, by omega, ha, m2, rfl, rfl⟩, rfl⟩

theorem Run.of_head_tail {F1 F2 : Pat} {c : Nt} {g : Bool} {X1 M X2 : Word} (p : Nat)
    (s1 : starFree F1 = true) (s2 : starFree F2 = true)
    (h1 : matchesAt (letters F1) X1) (l1 : X1.length = width F1) (hM : ∀ x ∈ M, clsMatch c x = true)
    (h2 : matchesAt (letters F2) X2) (l2 : X2.length = width F2) :
    Run (F1 ++ .star c g :: F2) (X1 ++ M ++ X2) p (fmarks F1 p ++ fmarks F2 (p + width F1 + M.length))
      (p + (X1 ++ M ++ X2).length) := by
  refine (Run.fixed_star_fixed_iff s1 s2).mpr ⟨M.length, by simp [l1, l2]; omega, rfl, ?_, by simp [l1], ?_, ?_⟩
  · rw [List.append_assoc]; exact matchesAt_extend h1 _
  · simpa [← l1, List.append_assoc] using hM
  · simpa [← l1, List.append_assoc] using h2

theorem Run.head_tail_parts {F1 F2 : Pat} {c : Nt} {g : Bool} {xs : Word} {p : Nat} {ms : List Nat} {e : Nat}
    (s1 : starFree F1 = true) (s2 : starFree F2 = true) (h : Run (F1 ++ .star c g :: F2) xs p ms e) :
    ∃ X1 M X2 R, xs = X1 ++ M ++ X2 ++ R ∧ X1.length = width F1 ∧ X2.length = width F2 ∧
      matchesAt (letters F1) X1 ∧ (∀ x ∈ M, clsMatch c x = true) ∧ matchesAt (letters F2) X2 ∧
      ms = fmarks F1 p ++ fmarks F2 (p + width F1 + M.length) ∧ e = p + (X1 ++ M ++ X2).length := by
  obtain ⟨j, rfl, rfl, m1, hj, ha, m2⟩ := (Run.fixed_star_fixed_iff s1 s2).mp h
  have l1 : (xs.take (width F1)).length = width F1 := List.length_take_of_le (by omega)
  have lM : ((xs.drop (width F1)).take j).length = j := List.length_take_of_le (by rw [List.length_drop]; omega)
  have l2 : ((xs.drop (width F1 + j)).take (width F2)).length = width F2 :=
    List.length_take_of_le (letters_length F2 ▸ m2.1)
  refine ⟨_, _, _, xs.drop (width F1 + j + width F2), ?_, l1, l2,
    (matchesAt_take _ _ _ (letters_length F1).le).mpr m1, ha, (matchesAt_take _ _ _ (letters_length F2).le).mpr m2,
    by rw [lM], by rw [List.length_append, List.length_append, l1, lM, l2]; omega⟩
  simp only [List.append_assoc, ← List.drop_drop, List.take_append_drop]

end Moclo
