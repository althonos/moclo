import Moclo.Proofs.Pieces
/-! Three-group structures `pre (g1)(g2)(g3) suf`: how a run decomposes along the groups, narrowing the overhang
groups to a signature, and records that carry a structure exactly once. -/
namespace Moclo

def threeGroup (pre g1 g2 g3 suf : Pat) : Pat :=
  pre ++ [.gopen] ++ g1 ++ [.gclose, .gopen] ++ g2 ++ [.gclose, .gopen] ++ g3 ++ [.gclose] ++ suf

theorem splitGroups_sound {p pre g1 g2 g3 suf : Pat} (h : splitGroups p = some (pre, g1, g2, g3, suf)) :
    p = threeGroup pre g1 g2 g3 suf ∧
    markless pre ∧ markless g1 ∧ markless g2 ∧ markless g3 ∧ markless suf := by
  unfold splitGroups at h
  -- down the nested matches of the definition: every other branch returns `none`
  repeat' (split at h <;> try cases h)
  rename_i _ r1 h1 _ r2 h2 _ r3 h3 _ h4 hall
  have tw {l : Pat} : markless (l.takeWhile fun t => !t.isMark) := markless_of_all List.all_takeWhile
  refine ⟨?_, tw, tw, tw, tw, markless_of_all hall⟩
  simp only [threeGroup, List.append_assoc, List.cons_append, List.nil_append, ← h4, ← h3, ← h2, ← h1,
    List.takeWhile_append_dropWhile]

theorem splitGroups_threeGroup {pre g1 g2 g3 suf : Pat} (hpre : markless pre) (h1 : markless g1) (h2 : markless g2)
    (h3 : markless g3) (hsuf : markless suf) :
    splitGroups (threeGroup pre g1 g2 g3 suf) = some (pre, g1, g2, g3, suf) := by
  have ok : ∀ {a : Pat}, markless a → ∀ t ∈ a, (!t.isMark) = true := fun h t ht => by rw [h t ht]; rfl
  -- a markless piece in front of a group boundary is what `takeWhile` takes and `dropWhile` drops
  have tw : ∀ {a : Pat} {t : Tok} (r : Pat), markless a → t.isMark = true →
      (a ++ t :: r).takeWhile (fun t => !t.isMark) = a ∧ (a ++ t :: r).dropWhile (fun t => !t.isMark) = t :: r :=
    fun r h ht => by
      rw [List.takeWhile_append_of_pos (ok h), List.dropWhile_append_of_pos (ok h),
        List.takeWhile_cons_of_neg (by simp [ht]), List.dropWhile_cons_of_neg (by simp [ht]), List.append_nil]
      exact ⟨rfl, rfl⟩
  simp only [threeGroup, List.append_assoc, List.cons_append, List.nil_append, splitGroups,
    tw (t := .gopen) _ hpre rfl, tw (t := .gclose) _ h1 rfl, tw (t := .gclose) _ h2 rfl, tw (t := .gclose) _ h3 rfl,
    List.all_eq_true.mpr (ok hsuf), if_true]

theorem Run.isFixed_append_iff {f b : Pat} {k : Nat} {xs : Word} {p : Nat} {ms : List Nat} {e : Nat}
    (hf : isFixed k f = true) :
    Run (f ++ b) xs p ms e ↔ matchesAt (letters f) xs ∧ Run b (xs.drop k) (p + k) ms e := by
  obtain ⟨sf, rfl, ml⟩ := isFixed_spec hf
  simp [Run.starFree_append_iff sf, fmarks_of_markless ml]

/-- with positions counted on `xs`, the second piece runs on what is left of `xs` -/
theorem Run.append_drop_iff {a b : Pat} {xs : Word} {p : Nat} {ms : List Nat} {e : Nat} :
    Run (a ++ b) (xs.drop p) p ms e ↔
      ∃ mid msA msB, Run a (xs.drop p) p msA mid ∧ Run b (xs.drop mid) mid msB e ∧ ms = msA ++ msB := by
  rw [Run.append_iff]
  refine exists_congr fun mid => exists_congr fun msA => exists_congr fun msB => and_congr_right fun h => ?_
  rw [List.drop_drop, Nat.add_sub_cancel' h.bounds.1]

/-- `a1` is the start of group 1, `b2` the end of group 2 -/
theorem threeGroup_run_iff {pre g1 g2 g3 suf : Pat} {k : Nat} {xs : Word} {ms : List Nat} {e : Nat}
    (h1 : isFixed k g1 = true) (h3 : isFixed k g3 = true) :
    Run (threeGroup pre g1 g2 g3 suf) xs 0 ms e ↔
      ∃ a1 b2 m0 m2 m4, ms = m0 ++ a1 :: (a1 + k) :: (a1 + k) :: (m2 ++ b2 :: b2 :: (b2 + k) :: m4) ∧
        Run pre xs 0 m0 a1 ∧ matchesAt (letters g1) (xs.drop a1) ∧
        Run g2 (xs.drop (a1 + k)) (a1 + k) m2 b2 ∧ matchesAt (letters g3) (xs.drop b2) ∧
        Run suf (xs.drop (b2 + k)) (b2 + k) m4 e := by
  have hreg : threeGroup pre g1 g2 g3 suf =
      pre ++ (.gopen :: (g1 ++ (.gclose :: .gopen :: (g2 ++ (.gclose :: .gopen :: (g3 ++ (.gclose :: suf))))))) := by
    simp [threeGroup, List.append_assoc]
  simp only [hreg, Run.append_iff (a := pre), Run.append_drop_iff (a := g2), Run.isFixed_append_iff h1,
    Run.isFixed_append_iff h3, Run.gopen_iff, Run.gclose_iff, Nat.sub_zero, List.drop_drop]
  -- the token equations have turned the left side into the right side with its existentials nested piece by piece
  -- (one `∃ ms', ms = p :: ms' ∧ …` per group boundary); the two directions only re-bracket them
  constructor
  · rintro ⟨a1, m0, _, rpre, ⟨_, rfl, m1, _, rfl, _, rfl, b2, m2, _, rg2, ⟨_, rfl, _, rfl, m3, m4, rfl, rsuf⟩, rfl⟩, rfl⟩
    exact ⟨a1, b2, m0, m2, m4, rfl, rpre, m1, rg2, m3, rsuf⟩
  · rintro ⟨a1, b2, m0, m2, m4, rfl, rpre, m1, rg2, m3, rsuf⟩
    exact ⟨a1, m0, _, rpre, ⟨_, rfl, m1, _, rfl, _, rfl, b2, m2, _, rg2, ⟨_, rfl, _, rfl, m3, m4, rfl, rsuf⟩, rfl⟩, rfl⟩

theorem threeGroup_run {pre g1 g2 g3 suf : Pat} {k : Nat} {xs : Word} {ms : List Nat} {e : Nat}
    (hpre : markless pre) (hg2 : markless g2) (hsuf : markless suf)
    (h1 : isFixed k g1 = true) (h3 : isFixed k g3 = true)
    (h : Run (threeGroup pre g1 g2 g3 suf) xs 0 ms e) :
    ∃ a1 b2, ms = [a1, a1 + k, a1 + k, b2, b2, b2 + k] ∧ a1 + k ≤ b2 ∧ b2 + k ≤ e ∧
      Run pre xs 0 [] a1 ∧ matchesAt (letters g1) (xs.drop a1) ∧
      Run g2 (xs.drop (a1 + k)) (a1 + k) [] b2 ∧ matchesAt (letters g3) (xs.drop b2) ∧
      Run suf (xs.drop (b2 + k)) (b2 + k) [] e := by
  obtain ⟨a1, b2, m0, m2, m4, rfl, rpre, m1, rg2, m3, rsuf⟩ := (threeGroup_run_iff h1 h3).mp h
  obtain rfl := rpre.markless_ms hpre
  obtain rfl := rg2.markless_ms hg2
  obtain rfl := rsuf.markless_ms hsuf
  exact ⟨a1, b2, rfl, rg2.bounds.1, rsuf.bounds.1, rpre, m1, rg2, m3, rsuf⟩

/-- when the outer pieces are star-free the marks are determined by where the run ends -/
theorem threeGroup_run_marks {pre g1 g2 g3 suf : Pat} {k : Nat} {xs : Word} {ms : List Nat} {e : Nat}
    (hpre : markless pre) (hg2 : markless g2) (hsuf : markless suf) (spre : starFree pre = true)
    (ssuf : starFree suf = true) (h1 : isFixed k g1 = true) (h3 : isFixed k g3 = true)
    (h : Run (threeGroup pre g1 g2 g3 suf) xs 0 ms e) :
    ms = [width pre, width pre + k, width pre + k, e - (width suf + k), e - (width suf + k), e - width suf] ∧
    width pre + k + width g2 + k + width suf ≤ e := by
  obtain ⟨a1, b2, rfl, -, -, rpre, -, rg2, -, rsuf⟩ := threeGroup_run hpre hg2 hsuf h1 h3 h
  obtain ⟨rfl, -⟩ := rpre.fixed spre
  obtain ⟨rfl, -⟩ := rsuf.fixed ssuf
  have := rg2.width_le
  refine ⟨?_, by omega⟩
  rw [show b2 + k + width suf - (width suf + k) = b2 by omega, Nat.add_sub_cancel, Nat.zero_add]

theorem threeGroup_join {pre g1 g2 g3 suf : Pat} {k : Nat} {xs : Word} {a1 b2 e : Nat}
    (h1 : isFixed k g1 = true) (h3 : isFixed k g3 = true)
    (rpre : Run pre xs 0 [] a1) (m1 : matchesAt (letters g1) (xs.drop a1))
    (rg2 : Run g2 (xs.drop (a1 + k)) (a1 + k) [] b2) (m3 : matchesAt (letters g3) (xs.drop b2))
    (rsuf : Run suf (xs.drop (b2 + k)) (b2 + k) [] e) :
    Run (threeGroup pre g1 g2 g3 suf) xs 0 [a1, a1 + k, a1 + k, b2, b2, b2 + k] e :=
  (threeGroup_run_iff h1 h3).mpr ⟨a1, b2, [], [], [], rfl, rpre, m1, rg2, m3, rsuf⟩

/-- **narrowing the overhang groups**: two structures that differ only in the (fixed-width) letters of
groups 1 and 3 — `g1'`, `g3'` at least as specific as `g1`, `g3` — have the same runs, up to the letters the
two groups must match -/
theorem threeGroup_narrow {pre g1 g1' g2 g3 g3' suf : Pat} {k : Nat} {xs : Word} {ms : List Nat} {e : Nat}
    (hpre : markless pre) (hg2 : markless g2) (hsuf : markless suf)
    (h1 : isFixed k g1 = true) (h3 : isFixed k g3 = true) (h1' : isFixed k g1' = true) (h3' : isFixed k g3' = true)
    (hsub1 : ∀ ys, matchesAt (letters g1') ys → matchesAt (letters g1) ys)
    (hsub3 : ∀ ys, matchesAt (letters g3') ys → matchesAt (letters g3) ys) :
    Run (threeGroup pre g1' g2 g3' suf) xs 0 ms e ↔
      Run (threeGroup pre g1 g2 g3 suf) xs 0 ms e ∧
        ∃ a1 b2, ms = [a1, a1 + k, a1 + k, b2, b2, b2 + k] ∧
          matchesAt (letters g1') (xs.drop a1) ∧ matchesAt (letters g3') (xs.drop b2) := by
  constructor
  · intro h
    obtain ⟨a1, b2, rfl, _, _, rpre, m1, rg2, m3, rsuf⟩ := threeGroup_run hpre hg2 hsuf h1' h3' h
    exact ⟨threeGroup_join h1 h3 rpre (hsub1 _ m1) rg2 (hsub3 _ m3) rsuf, a1, b2, rfl, m1, m3⟩
  · rintro ⟨h, a1', b2', hms', m1', m3'⟩
    obtain ⟨a1, b2, rfl, _, _, rpre, _, rg2, _, rsuf⟩ := threeGroup_run hpre hg2 hsuf h1 h3 h
    simp only [List.cons.injEq, and_true] at hms'
    obtain ⟨rfl, _, _, rfl, _⟩ := hms'
    exact threeGroup_join h1' h3' rpre m1' rg2 m3' rsuf

/-- the structure fits the record in exactly one way: one start, one choice of run lengths -/
def UniqueFit (p : Pat) (w : Word) : Prop :=
  ∃ i ms e, i < w.length ∧ Run p (window w i) 0 ms e ∧
    ∀ j ms' e', j < w.length → Run p (window w j) 0 ms' e' → j = i ∧ ms' = ms ∧ e' = e

theorem UniqueFit.eq {p : Pat} {w : Word} {i : Nat} {ms : List Nat} {e : Nat} (h : UniqueFit p w) (hi : i < w.length)
    (hr : Run p (window w i) 0 ms e) :
    ∀ j ms' e', j < w.length → Run p (window w j) 0 ms' e' → j = i ∧ ms' = ms ∧ e' = e := by
  obtain ⟨i0, ms0, e0, _, _, hu⟩ := h
  obtain ⟨rfl, rfl, rfl⟩ := hu i ms e hi hr
  exact hu

theorem UniqueFit.uniqueStart {p : Pat} {w : Word} (h : UniqueFit p w) : UniqueStart p w := by
  obtain ⟨i, ms, e, hi, hr, hu⟩ := h
  obtain ⟨rel, hrel⟩ := relMatch_isSome_of_run hr
  refine ⟨i, hi, by rw [hrel]; rfl, fun j hj hs => ?_⟩
  obtain ⟨rj, hrj⟩ := Option.isSome_iff_exists.mp hs
  obtain ⟨mj, ej, hrunj, _⟩ := relMatch_run hrj
  exact (hu j mj ej hj hrunj).1

theorem UniqueFit.search {p : Pat} {w : Word} {i : Nat} {ms : List Nat} {e : Nat} (h : UniqueFit p w) (hi : i < w.length)
    (hr : Run p (window w i) 0 ms e) :
    ∃ rel, relMatch p (window w i) = some rel ∧ rel.reverse = ms ++ [e] ∧
      search p w true = some ⟨i :: rel.reverse.map (· + i)⟩ := by
  obtain ⟨rel, hrel⟩ := relMatch_isSome_of_run hr
  obtain ⟨ms', e', hr', hrev⟩ := relMatch_run hrel
  obtain ⟨-, rfl, rfl⟩ := h.eq hi hr i ms' e' hi hr'
  obtain ⟨i0, -, -, hu0⟩ := h.uniqueStart
  obtain rfl := hu0 i hi (by rw [hrel]; rfl)
  exact ⟨rel, hrel, hrev, search_of_unique hi hrel hu0⟩

/-- a pattern all of whose runs are runs of `G` has its unique fit or none -/
theorem UniqueFit.sub {P G : Pat} {w : Word} {i : Nat} {ms : List Nat} {e : Nat}
    (hsub : ∀ {xs ms e}, Run P xs 0 ms e → Run G xs 0 ms e)
    (hfit : UniqueFit G w) (hi : i < w.length) (hr : Run G (window w i) 0 ms e) :
    (Run P (window w i) 0 ms e → UniqueFit P w) ∧
    (¬ Run P (window w i) 0 ms e → ∀ j ms' e', j < w.length → ¬ Run P (window w j) 0 ms' e') :=
  ⟨fun hP => ⟨i, ms, e, hi, hP, fun j ms' e' hj hr' => hfit.eq hi hr j ms' e' hj (hsub hr')⟩,
   fun hP j ms' e' hj hr' => by
     obtain ⟨rfl, rfl, rfl⟩ := hfit.eq hi hr j ms' e' hj (hsub hr'); exact hP hr'⟩

end Moclo
