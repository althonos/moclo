import Moclo.Proofs.View
import Moclo.Proofs.Feature
import Moclo.Proofs.Graph
import Moclo.Proofs.Erase
/-! `assemble`, stage by stage.  First what a single input contributes: its fragment, its overhang pair, its
dereferenced copy, its extraction.  Then the two equations that cut `assemble` into `Except.bind` stages, with one
iff per stage, and its three readings: a success (`assemble_ok`), the converse (`assemble_succeeds`), the one cause of
the error `internal` (`assemble_internal`). -/
namespace Moclo

@[simp] theorem rerefRec_seq (r : Rec) : (rerefRec r).seq = r.seq := rfl
@[simp] theorem rerefRec_rid (r : Rec) : (rerefRec r).rid = r.rid := rfl

def Ent.fragment (e : Ent) : Word := fragmentOf e.spec e.rcd.seq

theorem matchSeq_error {c : ClassSpec} {w : Word} {e : Err} (h : c.matchSeq w = .error e) :
    e = .invalid ∨ e = .illegal := by
  unfold ClassSpec.matchSeq at h
  split at h
  · cases h; exact Or.inl rfl
  · split at h <;> cases h; exact Or.inr rfl

theorem target_eq_ok {c : ClassSpec} {r t : Rec} :
    c.target r = .ok t ↔ ∃ m, c.matchSeq r.seq = .ok m ∧ t = c.targetOf r m := by
  unfold ClassSpec.target
  cases c.matchSeq r.seq <;> simp [Except.map, eq_comm]

theorem target_seq {c : ClassSpec} {r t : Rec} (h : c.target r = .ok t) : t.seq = fragmentOf c r.seq := by
  obtain ⟨m, hm, rfl⟩ := target_eq_ok.mp h
  rw [fragmentOf, hm]; exact targetOf_seq c r m

theorem target_error {c : ClassSpec} {r : Rec} {e : Err} (h : c.target r = .error e) :
    e = .invalid ∨ e = .illegal := by
  unfold ClassSpec.target at h
  cases hm : c.matchSeq r.seq with
  | error x => rw [hm] at h; cases h; exact matchSeq_error hm
  | ok m => rw [hm] at h; cases h

theorem gmod_eq_ok {e : Ent} {g : GMod Word} : e.gmod = .ok g ↔ ∃ m, e.spec.matchSeq e.rcd.seq = .ok m ∧
    g = ⟨upperW (m.group e.rcd.seq e.spec.upGroup), upperW (m.group e.rcd.seq e.spec.downGroup), e.oid⟩ := by
  unfold Ent.gmod
  cases e.spec.matchSeq e.rcd.seq <;> simp [bind, Except.bind, pure, Except.pure, eq_comm]

theorem gmod_eq_error {e : Ent} {x : Err} : e.gmod = .error x ↔ e.spec.matchSeq e.rcd.seq = .error x := by
  unfold Ent.gmod
  cases e.spec.matchSeq e.rcd.seq <;> simp [bind, Except.bind, pure, Except.pure]

theorem gmod_error {e : Ent} {err : Err} (h : e.gmod = .error err) : err = .invalid ∨ err = .illegal :=
  matchSeq_error (gmod_eq_error.mp h)

theorem gmod_oid {e : Ent} {g : GMod Word} (h : e.gmod = .ok g) : g.oid = e.oid := by
  obtain ⟨_, _, rfl⟩ := gmod_eq_ok.mp h; rfl

theorem gmod_match {e : Ent} {g : GMod Word} (h : e.gmod = .ok g) : ∃ m, e.spec.matchSeq e.rcd.seq = .ok m :=
  (gmod_eq_ok.mp h).imp fun _ h => h.1

theorem evalPrefix_ok_iff (mods : List Ent) (gs : List (GMod Word)) :
    evalPrefix mods = (gs, none) ↔ List.Forall₂ (fun e g => e.gmod = .ok g) mods gs := by
  induction mods generalizing gs with
  | nil => simp [evalPrefix, eq_comm]
  | cons e es ih =>
    rw [evalPrefix, List.forall₂_cons_left_iff]
    cases e.gmod with
    | error x => simp
    | ok g0 =>
      simp only [Prod.mk.injEq, Except.ok.injEq, ← ih, exists_and_left, exists_eq_left']
      exact ⟨fun ⟨h1, h2⟩ => ⟨_, Prod.ext rfl h2, h1.symm⟩, fun ⟨gs', h1, h2⟩ => by rw [h1] at *; exact ⟨h2.symm, rfl⟩⟩

theorem sameObj_gmods {mods : List Ent} {gs : List (GMod Word)}
    (h : List.Forall₂ (fun e g => e.gmod = .ok g) mods gs) (hoid : (mods.map (·.oid)).Nodup) : SameObj gs :=
  sameObj_of_nodup_oid ((h.imp fun _ _ h => (gmod_oid h).symm).map_eq ▸ hoid)

/-- every supplied module that its class accepts is in the evaluated prefix when no module was refused -/
theorem evalPrefix_mem (mods : List Ent) (gs : List (GMod Word)) (h : evalPrefix mods = (gs, none)) :
    ∀ e ∈ mods, ∀ g, e.gmod = .ok g → g ∈ gs := by
  intro e he g hg
  obtain ⟨g', hg', he'⟩ := ((evalPrefix_ok_iff _ _).mp h).flip.exists_of_mem_right e he
  exact Except.ok.inj (hg.symm.trans he') ▸ hg'

theorem evalPrefix_src (mods : List Ent) : ∀ g ∈ (evalPrefix mods).1, ∃ e ∈ mods, e.oid = g.oid ∧ e.gmod = .ok g := by
  induction mods with
  | nil => simp [evalPrefix]
  | cons e es ih =>
    rw [evalPrefix]
    cases he : e.gmod with
    | error x => simp
    | ok g0 =>
      simp only [List.mem_cons, forall_eq_or_imp, exists_eq_or_imp]
      exact ⟨Or.inl ⟨(gmod_oid he).symm, he⟩, fun g hg => Or.inr (ih g hg)⟩

theorem evalPrefix_error {mods : List Ent} {err : Err} (h : (evalPrefix mods).2 = some err) :
    err = .invalid ∨ err = .illegal := by
  induction mods with
  | nil => cases h
  | cons e es ih =>
    rw [evalPrefix] at h
    cases he : e.gmod with
    | error x => rw [he] at h; cases h; exact gmod_error he
    | ok g => rw [he] at h; exact ih h

/-- the dereferenced copies of the entities: same identity, class, flag and sequence -/
def DerefOf (e d : Ent) : Prop :=
  d.oid = e.oid ∧ d.spec = e.spec ∧ d.faulty = e.faulty ∧ derefRec e.rcd = some d.rcd

/-- the copy of an input that `assemble` works on (`none`: a citation does not index the reference list) -/
def Ent.deref (e : Ent) : Option Ent := (derefRec e.rcd).map fun r => { e with rcd := r }

theorem deref_eq_some {e d : Ent} : e.deref = some d ↔ DerefOf e d := by
  unfold Ent.deref DerefOf
  rw [Option.map_eq_some_iff]
  constructor
  · rintro ⟨r, hr, rfl⟩; exact ⟨rfl, rfl, rfl, hr⟩
  · rintro ⟨h1, h2, h3, h4⟩
    refine ⟨d.rcd, h4, ?_⟩
    cases d; cases e; simp_all

theorem mapM_deref_eq_some {mods dms : List Ent} : mods.mapM Ent.deref = some dms ↔ List.Forall₂ DerefOf mods dms := by
  simp only [List.mapM_eq_some_iff, deref_eq_some]

theorem deref_isSome (e : Ent) : e.deref.isSome = (derefRec e.rcd).isSome := by
  unfold Ent.deref; rw [Option.isSome_map]

theorem derefOf_exists_iff {e : Ent} : (∃ d, DerefOf e d) ↔ (derefRec e.rcd).isSome := by
  simp only [← deref_eq_some, ← Option.isSome_iff_exists, deref_isSome]

theorem DerefOf.seq {e d : Ent} (h : DerefOf e d) : d.rcd.seq = e.rcd.seq := derefRec_seq h.2.2.2

theorem DerefOf.fragment {e d : Ent} (h : DerefOf e d) : d.fragment = e.fragment := by
  unfold Ent.fragment; rw [h.2.1, h.seq]

theorem DerefOf.gmod {e d : Ent} (h : DerefOf e d) : d.gmod = e.gmod := by
  unfold Ent.gmod; rw [h.1, h.2.1, h.seq]

theorem restore_derefEnts {mods dms : List Ent} (h : List.Forall₂ DerefOf mods dms) :
    ((dms.map (·.rcd)).zip ((mods.map (·.rcd)).map snapshot)).map (fun p => restore p.2 p.1) = mods.map (·.rcd) := by
  induction h with
  | nil => rfl
  | @cons e d es ds hd _ ih =>
    simp only [List.map_cons, List.zip_cons_cons]
    rw [ih, restore_deref hd.2.2.2]

theorem find?_oid_rel {R : Ent → Ent → Prop} {l l' : List Ent} (h : List.Forall₂ R l l')
    (ho : ∀ e e', R e e' → e'.oid = e.oid) (k : Nat) :
    Option.Rel R (l.find? (fun e => e.oid = k)) (l'.find? (fun e => e.oid = k)) :=
  h.find? fun e e' he => by rw [ho e e' he]

theorem find?_deref {mods dms : List Ent} (h : List.Forall₂ DerefOf mods dms) (k : Nat) :
    Option.Rel DerefOf (mods.find? (fun e => e.oid = k)) (dms.find? (fun e => e.oid = k)) :=
  find?_oid_rel h (fun _ _ h => h.1) k

/-- the extraction of an input: its target record, unless the harness made it raise -/
def Ent.extract (e : Ent) : Except Err Rec := if e.faulty then .error .injected else e.spec.target e.rcd

theorem extract_eq_ok {e : Ent} {t : Rec} : e.extract = .ok t ↔ e.faulty = false ∧ e.spec.target e.rcd = .ok t := by
  unfold Ent.extract; cases e.faulty <;> simp

theorem extract_seq {e : Ent} {t : Rec} (h : e.extract = .ok t) : t.seq = e.fragment :=
  target_seq (extract_eq_ok.mp h).2

theorem extract_error {e : Ent} {x : Err} (h : e.extract = .error x) : x = .invalid ∨ x = .illegal ∨ x = .injected := by
  unfold Ent.extract at h
  split at h
  · cases h; exact Or.inr (Or.inr rfl)
  · exact (target_error h).imp_right Or.inl

theorem DerefOf.extract_isOk {e d : Ent} (h : DerefOf e d) :
    (∃ t, d.extract = .ok t) ↔ e.faulty = false ∧ ∃ m, e.spec.matchSeq e.rcd.seq = .ok m := by
  simp only [extract_eq_ok, target_eq_ok, h.2.1, h.2.2.1, h.seq]
  exact ⟨fun ⟨_, h, m, hm, _⟩ => ⟨h, m, hm⟩, fun ⟨h, m, hm⟩ => ⟨_, h, m, hm, rfl⟩⟩

/-- the fragment of the supplied module with object id `oid` -/
def fragOfOid (ents : List Ent) (oid : Nat) : Word :=
  match ents.find? (fun e => e.oid = oid) with
  | some e => e.fragment
  | none => []

/-- … and its extraction (`internal`: no such module was supplied) -/
def extractOid (ents : List Ent) (oid : Nat) : Except Err Rec :=
  match ents.find? (fun e => e.oid = oid) with
  | some e => e.extract
  | none => .error .internal

theorem fragOfOid_of_mem {l : List Ent} (hn : (l.map (·.oid)).Nodup) {e : Ent} (he : e ∈ l) :
    fragOfOid l e.oid = e.fragment := by
  obtain ⟨e', h⟩ : ∃ e', l.find? (fun x => x.oid = e.oid) = some e' :=
    Option.isSome_iff_exists.mp (List.find?_isSome.mpr ⟨e, he, by simp⟩)
  rw [fragOfOid, h, List.inj_on_of_nodup_map hn (List.mem_of_find?_eq_some h) he (by simpa using List.find?_some h)]

theorem extractOid_eq_ok {ents : List Ent} {k : Nat} {t : Rec} :
    extractOid ents k = .ok t ↔ ∃ e, ents.find? (fun e => e.oid = k) = some e ∧ e.extract = .ok t := by
  unfold extractOid; cases ents.find? (fun e => e.oid = k) <;> simp

theorem extractChain_cons (ents : List Ent) (g : GMod Word) (gs : List (GMod Word)) (acc : Rec) :
    extractChain ents (g :: gs) acc = (extractOid ents g.oid).bind fun t => extractChain ents gs (acc.append t) := by
  unfold extractOid Ent.extract
  rw [extractChain]
  cases ents.find? (fun e => e.oid = g.oid) with
  | none => rfl
  | some e => dsimp only; cases e.faulty <;> cases e.spec.target e.rcd <;> rfl

theorem extractChain_eq_ok {ents : List Ent} {gs : List (GMod Word)} {acc r : Rec} :
    extractChain ents gs acc = .ok r ↔
      ∃ ts, List.Forall₂ (fun g t => extractOid ents g.oid = .ok t) gs ts ∧ r = ts.foldl Rec.append acc := by
  induction gs generalizing acc with
  | nil => simp [extractChain, eq_comm]
  | cons g gs ih =>
    simp only [extractChain_cons, Except.bind_eq_ok, ih, List.forall₂_cons_left_iff]
    exact ⟨fun ⟨t, ht, ts, hts, hr⟩ => ⟨t :: ts, ⟨t, ts, ht, hts, rfl⟩, hr⟩,
      fun ⟨_, ⟨t, ts, ht, hts, e⟩, hr⟩ => ⟨t, ht, ts, hts, by rw [hr, e]; rfl⟩⟩

theorem extractChain_error {ents : List Ent} {gs : List (GMod Word)} {acc : Rec} {x : Err}
    (h : extractChain ents gs acc = .error x) : ∃ g ∈ gs, extractOid ents g.oid = .error x := by
  induction gs generalizing acc with
  | nil => cases h
  | cons g gs ih =>
    rw [extractChain_cons, Except.bind_eq_error] at h
    rcases h with h | ⟨t, _, h⟩
    · exact ⟨g, by simp, h⟩
    · obtain ⟨g', hg', h'⟩ := ih h
      exact ⟨g', List.mem_cons_of_mem _ hg', h'⟩

theorem foldl_append_seq (ts : List Rec) (acc : Rec) :
    (ts.foldl Rec.append acc).seq = acc.seq ++ (ts.map (·.seq)).flatten := by
  induction ts generalizing acc with
  | nil => simp
  | cons t ts ih => simp only [List.foldl_cons, ih, Rec.append_seq, List.map_cons, List.flatten_cons, List.append_assoc]

theorem extractOid_deref {mods dms : List Ent} (hms : List.Forall₂ DerefOf mods dms) {k : Nat} {t : Rec}
    (h : extractOid dms k = .ok t) :
    t.seq = fragOfOid mods k ∧ ∃ e m, mods.find? (fun e => e.oid = k) = some e ∧ e.faulty = false ∧
      e.spec.matchSeq e.rcd.seq = .ok m := by
  obtain ⟨d, hd, ht⟩ := extractOid_eq_ok.mp h
  obtain ⟨e, he, hed⟩ := (hd ▸ find?_deref hms k).of_some_right
  obtain ⟨hf, m, hm⟩ := hed.extract_isOk.mp ⟨t, ht⟩
  exact ⟨by rw [extract_seq ht, hed.fragment, fragOfOid, he], e, m, he, hf, hm⟩

theorem extractChain_deref {mods dms : List Ent} (hms : List.Forall₂ DerefOf mods dms) {chain : List (GMod Word)}
    {acc r : Rec} (h : extractChain dms chain acc = .ok r) :
    r.seq = acc.seq ++ (chain.map (fun g => fragOfOid mods g.oid)).flatten ∧
    ∀ g ∈ chain, ∃ e m, mods.find? (fun e => e.oid = g.oid) = some e ∧ e.faulty = false ∧
      e.spec.matchSeq e.rcd.seq = .ok m := by
  obtain ⟨ts, hts, rfl⟩ := extractChain_eq_ok.mp h
  have hd := hts.imp fun g t ht => extractOid_deref hms ht
  exact ⟨by rw [foldl_append_seq, ← (hd.imp fun _ _ h => h.1.symm).map_eq],
    fun g hg => (List.exists_forall₂_iff.mp ⟨ts, hd⟩ g hg).elim fun _ h => h.2⟩

/-- the part of `assemble` that looks at overhangs only: the vector's pair and the map of the modules' -/
def assembleMap (v : Ent) (mods : List Ent) : Except Err (GMod Word × List (GMod Word)) :=
  match v.gmod with
  | .error e => .error e
  | .ok gv =>
    if gv.start = gv.stop then .error .invalid
    else match gBuild (evalPrefix mods).1 [] with
      | .error _ => .error .duplicate
      | .ok map =>
        match (evalPrefix mods).2 with
        | some e => .error e
        | none => if gRcClash rc map then .error .duplicate else .ok (gv, map)

theorem assembleMap_eq_ok {v : Ent} {mods : List Ent} {gv : GMod Word} {map : List (GMod Word)} :
    assembleMap v mods = .ok (gv, map) ↔ v.gmod = .ok gv ∧ gv.start ≠ gv.stop ∧
      ∃ gs, evalPrefix mods = (gs, none) ∧ gBuild gs [] = .ok map ∧ gRcClash rc map = false := by
  unfold assembleMap
  obtain ⟨gs, err⟩ := evalPrefix mods
  constructor
  · intro h
    split at h
    · cases h
    · split at h
      · cases h
      · split at h
        · cases h
        · split at h
          · cases h
          · split at h
            · cases h
            · cases h; simp_all
  · rintro ⟨h1, h2, gs, h3, h4, h5⟩
    cases h3
    simp [h1, h2, h4, h5]

theorem assembleMap_error {v : Ent} {mods : List Ent} {e : Err} (h : assembleMap v mods = .error e) :
    e = .invalid ∨ e = .illegal ∨ e = .duplicate := by
  unfold assembleMap at h
  split at h
  · cases h; exact (gmod_error ‹_›).elim Or.inl (Or.inr ∘ Or.inl)
  · split at h
    · cases h; exact Or.inl rfl
    · split at h
      · cases h; exact Or.inr (Or.inr rfl)
      · split at h
        · cases h; exact (evalPrefix_error ‹_›).elim Or.inl (Or.inr ∘ Or.inl)
        · split at h <;> cases h; exact Or.inr (Or.inr rfl)

/-- everything about `assemble` goes through this equation and `assembleCore_eq`; its second component is
`restore_derefEnts` -/
theorem assemble_eq (v : Ent) (mods : List Ent) (pid pname : Nat) :
    assemble v mods pid pname =
      ((assembleMap v mods).bind fun (gv, map) =>
          match mods.mapM Ent.deref, v.deref with
          | some dms, some dv => assembleCore v mods pid pname dv dms map gv
          | _, _ => .error .internal,
        v.rcd :: mods.map (·.rcd)) := by
  unfold assemble assembleMap
  cases v.gmod with
  | error e => rfl
  | ok gv =>
    dsimp only
    split
    · rfl
    · cases gBuild (evalPrefix mods).1 [] with
      | error e => rfl
      | ok map =>
        cases (evalPrefix mods).2 with
        | some e => rfl
        | none =>
          dsimp only
          split
          · rfl
          · change (match mods.mapM Ent.deref, v.deref with | some dms, some dv => _ | _, _ => _) = _
            cases hm : mods.mapM Ent.deref with
            | none => rfl
            | some dms =>
              cases hv : v.deref with
              | none => rfl
              | some dv =>
                exact Prod.ext rfl (restore_derefEnts (.cons (deref_eq_some.mp hv) (mapM_deref_eq_some.mp hm)))

theorem assembleCore_eq (v : Ent) (mods : List Ent) (pid pname : Nat) (dv : Ent) (dms : List Ent)
    (map : List (GMod Word)) (gv : GMod Word) :
    assembleCore v mods pid pname dv dms map gv =
      match gWalk gv.start (map.length + 1) gv.stop map with
      | (chain, rest, stall) =>
        (extractChain dms chain ⟨0, [], [], []⟩).bind fun acc =>
          match stall with
          | some o => .error (.missing o)
          | none => dv.extract.bind fun vt =>
            .ok { rcd := rerefRec { (acc.append vt) with rid := pid, refs := [] }, pid := pid, pname := pname,
                  commentVector := v.rcd.rid, commentModules := mods.map (·.rcd.rid), unused := rest.map (·.oid) } := by
  unfold assembleCore Ent.extract
  obtain ⟨chain, rest, stall⟩ := gWalk gv.start (map.length + 1) gv.stop map
  dsimp only
  cases extractChain dms chain ⟨0, [], [], []⟩ with
  | error e => rfl
  | ok acc =>
    cases stall with
    | some o => rfl
    | none =>
      dsimp only [Except.bind]
      cases dv.faulty with
      | true => rfl
      | false => cases dv.spec.target dv.rcd <;> rfl

theorem assembleCore_eq_ok {v : Ent} {mods : List Ent} {pid pname : Nat} {dv : Ent} {dms : List Ent}
    {map : List (GMod Word)} {gv : GMod Word} {p : Product} :
    assembleCore v mods pid pname dv dms map gv = .ok p ↔
      ∃ chain rest acc vt, gWalk gv.start (map.length + 1) gv.stop map = (chain, rest, none) ∧
        extractChain dms chain ⟨0, [], [], []⟩ = .ok acc ∧ dv.extract = .ok vt ∧
        p = { rcd := rerefRec { (acc.append vt) with rid := pid, refs := [] }, pid := pid, pname := pname,
              commentVector := v.rcd.rid, commentModules := mods.map (·.rcd.rid), unused := rest.map (·.oid) } := by
  rw [assembleCore_eq]
  constructor
  · obtain ⟨chain, rest, stall⟩ := gWalk gv.start (map.length + 1) gv.stop map
    intro h
    obtain ⟨acc, hacc, h⟩ := Except.bind_eq_ok.mp h
    cases stall with
    | some o => cases h
    | none =>
      obtain ⟨vt, hvt, h⟩ := Except.bind_eq_ok.mp h
      exact ⟨chain, rest, acc, vt, rfl, hacc, hvt, (Except.ok.inj h).symm⟩
  · rintro ⟨chain, rest, acc, vt, hw, hacc, hvt, rfl⟩
    rw [hw]; dsimp only; rw [hacc, hvt]; rfl

theorem assemble_eq_ok {v : Ent} {mods : List Ent} {pid pname : Nat} {p : Product} :
    (assemble v mods pid pname).1 = .ok p ↔
      ∃ gv map dms dv, assembleMap v mods = .ok (gv, map) ∧ List.Forall₂ DerefOf mods dms ∧ DerefOf v dv ∧
        assembleCore v mods pid pname dv dms map gv = .ok p := by
  rw [assemble_eq, Except.bind_eq_ok]
  simp only [← mapM_deref_eq_some, ← deref_eq_some, Prod.exists]
  refine exists_congr fun gv => exists_congr fun map => ?_
  cases mods.mapM Ent.deref <;> cases v.deref <;> simp

theorem assemble_inputs (v : Ent) (mods : List Ent) (pid pname : Nat) :
    (assemble v mods pid pname).2 = v.rcd :: mods.map (·.rcd) := by
  rw [assemble_eq]

theorem chain_src {mods : List Ent} {gs map chain rest : List (GMod Word)} {err : Option Err} {stall : Option Word}
    {cur stop : Word} (h3 : evalPrefix mods = (gs, err)) (hb : gBuild gs [] = .ok map)
    (hw : gWalk stop (map.length + 1) cur map = (chain, rest, stall)) :
    ∀ g ∈ chain, ∃ e ∈ mods, e.oid = g.oid ∧ e.gmod = .ok g := by
  intro g hg
  have hgm := ((gWalk_eq_iff (Nat.lt_succ_self _)).mp hw).spec.1.symm.subset (List.mem_append_left _ hg)
  exact evalPrefix_src mods g (h3 ▸ (gBuild_ok hb).2.1 g hgm)

/-- the walk selects supplied modules only: each is found among the inputs, and its copy among the dereferenced ones -/
theorem chain_find {mods dms : List Ent} {gs map chain rest : List (GMod Word)} {err : Option Err}
    {stall : Option Word} {cur stop : Word} (h3 : evalPrefix mods = (gs, err)) (hb : gBuild gs [] = .ok map)
    (hw : gWalk stop (map.length + 1) cur map = (chain, rest, stall)) (hms : List.Forall₂ DerefOf mods dms) :
    ∀ g ∈ chain, ∃ e d, mods.find? (fun e => e.oid = g.oid) = some e ∧
      dms.find? (fun e => e.oid = g.oid) = some d ∧ DerefOf e d := by
  intro g hg
  obtain ⟨e0, he0, ho, _⟩ := chain_src h3 hb hw g hg
  obtain ⟨e, he⟩ : ∃ e, mods.find? (fun e => e.oid = g.oid) = some e :=
    Option.isSome_iff_exists.mp (List.find?_isSome.mpr ⟨e0, he0, by simpa using ho⟩)
  obtain ⟨d, hd, hed⟩ := (he ▸ find?_deref hms g.oid).of_some_left
  exact ⟨e, d, he, hd, hed⟩

/-- what a successful assembly is made of -/
theorem assemble_ok {v : Ent} {mods : List Ent} {pid pname : Nat} {p : Product} {after : List Rec}
    (h : assemble v mods pid pname = (.ok p, after)) :
    ∃ gv gs map chain rest,
      v.gmod = .ok gv ∧ gv.start ≠ gv.stop ∧ evalPrefix mods = (gs, none) ∧ gBuild gs [] = .ok map ∧
      gRcClash rc map = false ∧ gWalk gv.start (map.length + 1) gv.stop map = (chain, rest, none) ∧
      p.rcd.seq = (chain.map (fun g => fragOfOid mods g.oid)).flatten ++ v.fragment ∧
      p.unused = rest.map (·.oid) ∧ p.pid = pid ∧ p.pname = pname ∧ p.rcd.rid = pid ∧
      p.commentVector = v.rcd.rid ∧ p.commentModules = mods.map (·.rcd.rid) ∧
      (∀ g ∈ chain, ∃ e m, mods.find? (fun e => e.oid = g.oid) = some e ∧ e.faulty = false ∧
        e.spec.matchSeq e.rcd.seq = .ok m) ∧ v.faulty = false ∧
      (∀ e ∈ mods, (derefRec e.rcd).isSome) ∧ (derefRec v.rcd).isSome := by
  obtain ⟨gv, map, dms, dv, hmap, hms, hdv, hcore⟩ := assemble_eq_ok.mp (congrArg Prod.fst h)
  obtain ⟨h1, h2, gs, h3, h4, h5⟩ := assembleMap_eq_ok.mp hmap
  obtain ⟨chain, rest, acc, vt, h6, hacc, hvt, rfl⟩ := assembleCore_eq_ok.mp hcore
  obtain ⟨hseq, hch⟩ := extractChain_deref hms hacc
  refine ⟨gv, gs, map, chain, rest, h1, h2, h3, h4, h5, h6, ?_, rfl, rfl, rfl, rfl, rfl, rfl, hch,
    hdv.2.2.1 ▸ (extract_eq_ok.mp hvt).1, ?_, derefOf_exists_iff.mp ⟨dv, hdv⟩⟩
  · simp [hseq, extract_seq hvt, hdv.fragment]
  · exact fun e he => derefOf_exists_iff.mp (List.exists_forall₂_iff.mp ⟨dms, hms⟩ e he)

/-- the converse of `assemble_ok` -/
theorem assemble_succeeds {v : Ent} {mods : List Ent} (pid pname : Nat)
    {gv : GMod Word} {gs map chain rest : List (GMod Word)}
    (h1 : v.gmod = .ok gv) (h2 : gv.start ≠ gv.stop) (h3 : evalPrefix mods = (gs, none))
    (h4 : gBuild gs [] = .ok map) (h5 : gRcClash rc map = false)
    (h6 : gWalk gv.start (map.length + 1) gv.stop map = (chain, rest, none))
    (hd : ∀ e ∈ mods, (derefRec e.rcd).isSome) (hdv : (derefRec v.rcd).isSome)
    (hch : ∀ g ∈ chain, ∀ e, mods.find? (fun e => e.oid = g.oid) = some e → e.faulty = false)
    (hvf : v.faulty = false) :
    ∃ p, (assemble v mods pid pname).1 = .ok p ∧
      p.rcd.seq = (chain.map (fun g => fragOfOid mods g.oid)).flatten ++ v.fragment ∧
      p.unused = rest.map (·.oid) := by
  obtain ⟨dms, hms⟩ := List.exists_forall₂_iff.mpr fun e he => derefOf_exists_iff.mpr (hd e he)
  obtain ⟨dv, hdv⟩ := derefOf_exists_iff.mpr hdv
  obtain ⟨vt, hvt⟩ := hdv.extract_isOk.mpr ⟨hvf, gmod_match h1⟩
  obtain ⟨ts, hts⟩ : ∃ ts, List.Forall₂ (fun g t => extractOid dms g.oid = .ok t) chain ts := by
    refine List.exists_forall₂_iff.mpr fun g hg => ?_
    -- the module is found, and every supplied module is accepted by its class
    obtain ⟨e, d, hf, hd', hed⟩ := chain_find h3 h4 h6 hms g hg
    obtain ⟨ge, hge⟩ := List.exists_forall₂_iff.mp ⟨gs, (evalPrefix_ok_iff _ _).mp h3⟩ e (List.mem_of_find?_eq_some hf)
    obtain ⟨t, ht⟩ := hed.extract_isOk.mpr ⟨hch g hg e hf, gmod_match hge⟩
    exact ⟨t, extractOid_eq_ok.mpr ⟨d, hd', ht⟩⟩
  have hacc := (extractChain_eq_ok (acc := ⟨0, [], [], []⟩)).mpr ⟨ts, hts, rfl⟩
  refine ⟨_, assemble_eq_ok.mpr ⟨gv, map, dms, dv, assembleMap_eq_ok.mpr ⟨h1, h2, gs, h3, h4, h5⟩, hms, hdv,
    assembleCore_eq_ok.mpr ⟨chain, rest, _, vt, h6, hacc, hvt, rfl⟩⟩, ?_, rfl⟩
  simp [(extractChain_deref hms hacc).1, extract_seq hvt, hdv.fragment]

/-- `internal` has one cause: a citation entry that does not index the reference list of its record.  (Which errors
there are at all is the type `Err`.) -/
theorem assemble_internal {v : Ent} {mods : List Ent} {pid pname : Nat}
    (h : (assemble v mods pid pname).1 = .error .internal) :
    derefRec v.rcd = none ∨ ∃ m ∈ mods, derefRec m.rcd = none := by
  rw [assemble_eq, Except.bind_eq_error] at h
  rcases h with h | ⟨⟨gv, map⟩, hmap, h⟩
  · rcases assembleMap_error h with h | h | h <;> cases h
  obtain ⟨_, _, gs, h3, h4, _⟩ := assembleMap_eq_ok.mp hmap
  cases hm : mods.mapM Ent.deref with
  | none =>
    obtain ⟨m, hm, hn⟩ := List.mapM_eq_none_iff.mp hm
    exact .inr ⟨m, hm, by simpa [Ent.deref] using hn⟩
  | some dms =>
    cases hv : v.deref with
    | none => exact .inl (by simpa [Ent.deref] using hv)
    | some dv =>
      -- with both copies at hand no later stage ends with `internal`
      exfalso
      rw [hm, hv] at h; dsimp only at h
      rw [assembleCore_eq] at h
      generalize hw : gWalk gv.start (map.length + 1) gv.stop map = w at h
      obtain ⟨chain, rest, stall⟩ := w
      rcases Except.bind_eq_error.mp h with h | ⟨acc, _, h⟩
      · obtain ⟨g, hg, hx⟩ := extractChain_error h
        -- the module is found
        obtain ⟨_, d, _, hd, _⟩ := chain_find h3 h4 hw (mapM_deref_eq_some.mp hm) g hg
        rw [extractOid, hd] at hx
        rcases extract_error hx with h | h | h <;> cases h
      · cases stall with
        | some o => cases h
        | none =>
          rcases Except.bind_eq_error.mp h with h | ⟨vt, _, h⟩
          · rcases extract_error h with h | h | h <;> cases h
          · cases h

end Moclo
