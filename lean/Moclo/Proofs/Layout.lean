import Moclo.Proofs.Assembly
import Moclo.Proofs.CiteRoundTrip
/-! Layout of the product.  Concatenation with its offsets; the two things no step of the pipeline touches (the
feature table with citations erased commutes with every step; citation entries are never edited: `RefsOnly`);
and `product_layout`, where a successful `assemble` is read as "re-referenced concatenation of the fragment
records of the supplied inputs". -/
namespace Moclo

def offsets (start : Nat) : List Rec → List Nat
  | [] => []
  | t :: ts => start :: offsets (start + t.seq.length) ts

theorem foldl_append_feats (ts : List Rec) (acc : Rec) :
    (ts.foldl Rec.append acc).feats =
      acc.feats ++ ((ts.zip (offsets acc.seq.length ts)).map (fun p => p.1.feats.map (Feature.shift p.2))).flatten := by
  induction ts generalizing acc with
  | nil => simp [offsets]
  | cons t ts ih =>
    simp only [List.foldl_cons, ih, offsets, List.zip_cons_cons, List.map_cons, List.flatten_cons]
    simp only [Rec.append, List.length_append, List.append_assoc]

theorem Feature.erase_rotr (n k : Nat) (f : Feature) : (f.rotr n k).erase = f.erase.rotr n k :=
  apply_ite Feature.erase _ _ _

theorem Rec.erase_rotr (r : Rec) (k : Int) : (r.rotr k).erase = r.erase.rotr k := by
  by_cases hk : (k.emod (r.seq.length : Int)).toNat = 0
  · simp only [Rec.rotr, Rec.erase_seq, hk, if_true]
  · simp only [Rec.rotr, hk, if_false, Rec.erase, List.map_map]
    exact congrArg (Rec.mk _ _ · _) (List.map_congr_left fun f _ => Feature.erase_rotr _ _ f)

theorem Rec.erase_rotl (r : Rec) (k : Int) : (r.rotl k).erase = r.erase.rotl k := r.erase_rotr _

theorem Rec.erase_slice (r : Rec) (a b : Nat) : (r.slice a b).erase = r.erase.slice a b := by
  simp only [Rec.slice, Rec.erase, List.map_map, List.filter_map]
  rfl

theorem Rec.erase_append (x y : Rec) : (x.append y).erase = x.erase.append y.erase := by
  simp only [Rec.append, Rec.erase, List.map_append, List.map_map]
  rfl

theorem erase_addSource (rid : Nat) (r : Rec) : (addSource rid r).erase = addSource rid r.erase := by
  simp only [addSource, Rec.erase, List.map_append]
  rfl

theorem erase_targetOf (c : ClassSpec) (r : Rec) (m : Match) : (c.targetOf r m).erase = c.targetOf r.erase m := by
  unfold ClassSpec.targetOf
  cases c.kind <;> simp only [erase_addSource, Rec.erase_slice, Rec.erase_rotl] <;> rfl

theorem foldl_append_erase (ts : List Rec) (acc : Rec) :
    (ts.foldl Rec.append acc).erase = (ts.map Rec.erase).foldl Rec.append acc.erase := by
  induction ts generalizing acc with
  | nil => rfl
  | cons t ts ih => simp only [List.foldl_cons, List.map_cons, ih, Rec.erase_append]

def RefsOnly (r : Rec) : Prop := ∀ f ∈ r.feats, AllRefs f.cites

theorem derefRec_refsOnly {r r' : Rec} (h : derefRec r = some r') : RefsOnly r' := by
  intro f' hf' c' hc'
  obtain ⟨f, _, hf⟩ := (derefRec_eq_some.mp h).2.exists_of_mem_right f' hf'
  obtain ⟨c, _, hc⟩ := (derefFeature_eq_some.mp hf).2.exists_of_mem_right c' hc'
  exact derefCite_isRef hc

theorem RefsOnly.rotr {r : Rec} (h : RefsOnly r) (k : Int) : RefsOnly (r.rotr k) := by
  rw [RefsOnly, Rec.rotr_feats]
  split
  · exact h
  · exact List.forall_mem_map.mpr fun g hg => (g.rotr_cites ..).symm ▸ h g hg

theorem RefsOnly.rotl {r : Rec} (h : RefsOnly r) (k : Int) : RefsOnly (r.rotl k) := h.rotr _

theorem RefsOnly.slice {r : Rec} (h : RefsOnly r) (a b : Nat) : RefsOnly (r.slice a b) :=
  List.forall_mem_map.mpr fun g hg => h g (List.mem_filter.mp hg).1

theorem RefsOnly.addSource {r : Rec} (h : RefsOnly r) (rid : Nat) : RefsOnly (addSource rid r) :=
  List.forall_mem_append.mpr ⟨h, List.forall_mem_singleton.mpr nofun⟩

theorem RefsOnly.append {x y : Rec} (hx : RefsOnly x) (hy : RefsOnly y) : RefsOnly (x.append y) :=
  List.forall_mem_append.mpr ⟨hx, List.forall_mem_map.mpr hy⟩

theorem RefsOnly.targetOf {r : Rec} (h : RefsOnly r) (c : ClassSpec) (m : Match) : RefsOnly (c.targetOf r m) := by
  unfold ClassSpec.targetOf
  cases c.kind <;> exact ((h.rotl _).slice _ _).addSource _

theorem RefsOnly.target {c : ClassSpec} {r t : Rec} (h : RefsOnly r) (ht : c.target r = .ok t) : RefsOnly t := by
  obtain ⟨m, _, rfl⟩ := target_eq_ok.mp ht
  exact h.targetOf c m

theorem RefsOnly.foldl {ts : List Rec} (h : ∀ t ∈ ts, RefsOnly t) {acc : Rec} (ha : RefsOnly acc) :
    RefsOnly (ts.foldl Rec.append acc) :=
  List.foldlRecOn ts _ ha fun _ ha t ht => ha.append (h t ht)

/-- `t` is the fragment record of the supplied input `e`: the target, at match `m`, of its dereferenced copy -/
def TargetOfInput (e : Ent) (m : Match) (t : Rec) : Prop :=
  e.spec.matchSeq e.rcd.seq = .ok m ∧ ∃ d, derefRec e.rcd = some d ∧ t = e.spec.targetOf d m

theorem TargetOfInput.erase {e : Ent} {m : Match} {t : Rec} (h : TargetOfInput e m t) :
    t.erase = (e.spec.targetOf e.rcd m).erase := by
  obtain ⟨_, d, hd, rfl⟩ := h
  rw [erase_targetOf, erase_targetOf, derefRec_erase hd]

theorem TargetOfInput.refsOnly {e : Ent} {m : Match} {t : Rec} (h : TargetOfInput e m t) : RefsOnly t := by
  obtain ⟨_, d, hd, rfl⟩ := h
  exact (derefRec_refsOnly hd).targetOf _ _

theorem targetOfInput_of_extract {e d : Ent} {t : Rec} (hd : DerefOf e d) (ht : d.extract = .ok t) :
    ∃ m, TargetOfInput e m t := by
  obtain ⟨m, hm, rfl⟩ := target_eq_ok.mp (extract_eq_ok.mp ht).2
  exact ⟨m, by rw [← hd.2.1, ← hd.seq]; exact hm, d.rcd, hd.2.2.2, by rw [hd.2.1]⟩

/-- **the record of a product** is the re-referenced concatenation of the fragment records of the chain's
modules — the supplied ones, in chain order — followed by the vector's -/
theorem product_layout {v : Ent} {mods : List Ent} {pid pname : Nat} {p : Product} {after : List Rec}
    (h : assemble v mods pid pname = (.ok p, after)) :
    ∃ gv map chain rest ts vt mv, v.gmod = .ok gv ∧ gBuild (evalPrefix mods).1 [] = .ok map ∧
      gWalk gv.start (map.length + 1) gv.stop map = (chain, rest, none) ∧
      List.Forall₂ (fun (g : GMod Word) t =>
        ∃ e m, mods.find? (fun e => e.oid = g.oid) = some e ∧ TargetOfInput e m t) chain ts ∧
      TargetOfInput v mv vt ∧
      p.rcd = rerefRec { ((ts ++ [vt]).foldl Rec.append ⟨0, [], [], []⟩) with rid := pid, refs := [] } := by
  obtain ⟨gv, map, dms, dv, hmap, hms, hdv, hcore⟩ := assemble_eq_ok.mp (congrArg Prod.fst h)
  obtain ⟨hgv, _, gs, hgs, hb, _⟩ := assembleMap_eq_ok.mp hmap
  obtain ⟨chain, rest, acc, vt, hw, hacc, hvt, rfl⟩ := assembleCore_eq_ok.mp hcore
  obtain ⟨ts, hts, rfl⟩ := extractChain_eq_ok.mp hacc
  obtain ⟨mv, hmv⟩ := targetOfInput_of_extract hdv hvt
  refine ⟨gv, map, chain, rest, ts, vt, mv, hgv, by rw [hgs]; exact hb, hw, hts.imp fun g t hg => ?_, hmv, ?_⟩
  · obtain ⟨d, hd, ht⟩ := extractOid_eq_ok.mp hg
    obtain ⟨e, he, hed⟩ := (hd ▸ find?_deref hms g.oid).of_some_right
    exact (targetOfInput_of_extract hed ht).elim fun m hm => ⟨e, m, he, hm⟩
  · rw [List.foldl_append]; rfl

/-- **the product of any successful assembly can be taken to the next level**: its citations are numbers
into its own reference list, and dereferencing them — the first thing the next assembly does with it — succeeds
and gives back the record `pre` the product was numbered from, every citation a paper again (that `pre` is the
concatenation of the inputs' fragment records is `product_layout`; it is not repeated in this statement) -/
theorem product_derefs {v : Ent} {mods : List Ent} {pid pname : Nat} {p : Product} {after : List Rec}
    (h : assemble v mods pid pname = (.ok p, after)) :
    ∃ pre : Rec, RefsOnly pre ∧ p.rcd = rerefRec { pre with refs := [] } ∧
      derefRec p.rcd = some { pre with refs := p.rcd.refs } := by
  obtain ⟨_, _, _, _, ts, vt, mv, _, _, _, hts, hvt, hp⟩ := product_layout h
  refine ⟨{ ((ts ++ [vt]).foldl Rec.append ⟨0, [], [], []⟩) with rid := pid }, ?hpre, hp, hp ▸ deref_reref _ ?hpre⟩
  refine RefsOnly.foldl (List.forall_mem_append.mpr ⟨fun t ht => ?_, List.forall_mem_singleton.mpr hvt.refsOnly⟩)
    (fun f hf => nomatch hf)
  obtain ⟨_, _, e, m, _, hm⟩ := hts.exists_of_mem_right t ht
  exact hm.refsOnly

end Moclo
