import Moclo.Props.C03
/-! The overhang graph of the reverse-complemented inputs: every module `a → b` becomes `rc b → rc a`, the
vector `(up, down)` becomes `(rc down, rc up)`, and the chain is walked backwards. -/
namespace Moclo
variable {O : Type}

/-- a module seen on the other strand -/
def GMod.flip (rc : O → O) (m : GMod O) : GMod O := { start := rc m.stop, stop := rc m.start, oid := m.oid }

def stops (l : List (GMod O)) : List O := l.map (·.stop)

/-- a path as one equation between lists, so that reversing it (`isPath_flip`) and its having no repeated
overhang (`IsPath.nodup_stops`) are facts about lists -/
theorem isPath_iff {a b : O} {l : List (GMod O)} : IsPath a l b ↔ keys l ++ [b] = a :: stops l := by
  induction l generalizing a with
  | nil => simp [IsPath, keys, stops, eq_comm]
  | cons m l ih => simp [IsPath, keys, stops, ih]

theorem keys_flip (rc : O → O) (l : List (GMod O)) :
    keys (l.reverse.map (GMod.flip rc)) = ((stops l).map rc).reverse := by
  simp [keys, stops, GMod.flip, List.map_reverse, Function.comp_def]

theorem stops_flip (rc : O → O) (l : List (GMod O)) :
    stops (l.reverse.map (GMod.flip rc)) = ((keys l).map rc).reverse := by
  simp [keys, stops, GMod.flip, List.map_reverse, Function.comp_def]

theorem isPath_flip (rc : O → O) {a b : O} {l : List (GMod O)} (h : IsPath a l b) :
    IsPath (rc b) (l.reverse.map (GMod.flip rc)) (rc a) := by
  rw [isPath_iff] at h ⊢
  rw [keys_flip, stops_flip]
  simpa using (congrArg (fun l => (l.map rc).reverse) h).symm

theorem IsPath.nodup_stops {a b : O} {l : List (GMod O)} (h : IsPath a l b) (hn : (keys l).Nodup)
    (hb : ∀ m ∈ l, m.start ≠ b) : (a :: stops l).Nodup := by
  rw [← isPath_iff.mp h, List.nodup_append]
  refine ⟨hn, List.nodup_singleton b, List.forall_mem_map.mpr fun m hm y hy => ?_⟩
  rw [List.mem_singleton.mp hy]; exact hb m hm

theorem sameObj_flip (rc : O → O) {l : List (GMod O)} (h : SameObj l) : SameObj (l.map (GMod.flip rc)) := by
  simp only [SameObj, List.forall_mem_map]
  intro x hx y hy ho
  rw [h x hx y hy ho]

variable [DecidableEq O]

/-- **the graph of the other strand**: if the walk through the supplied modules succeeds and uses all of
them, and no two downstream overhangs are reverse complements of each other, then the walk through the
flipped modules, from the flipped vector, succeeds along the reversed chain and uses all of them -/
theorem gAssemble_rc {rc : O → O} (hinv : ∀ x, rc (rc x) = x) {vUp vDown : O} {mods chain : List (GMod O)}
    (hid : SameObj mods) (h : gAssemble rc vUp vDown mods = .ok (chain, []))
    (hJ : ∀ m ∈ mods, ∀ m' ∈ mods, m'.stop ≠ rc m.stop) :
    gAssemble rc (rc vDown) (rc vUp) (mods.map (GMod.flip rc)) = .ok (chain.reverse.map (GMod.flip rc), []) := by
  have hinj : Function.Injective rc := Function.LeftInverse.injective hinv
  obtain ⟨hv, _, _, ⟨hpath, hin, hnd, hns⟩, _, hrest⟩ := C03.ok_sound hid h
  have hall : ∀ m ∈ mods, m ∈ chain := fun m hm =>
    Classical.byContradiction fun hc => by simpa using (hrest m).mpr ⟨hm, hc⟩
  obtain ⟨hvs, hsn⟩ := List.nodup_cons.mp (hpath.nodup_stops hnd hns)
  have hc : C03.Chain (mods.map (GMod.flip rc)) (rc vUp) (chain.reverse.map (GMod.flip rc)) (rc vDown) := by
    refine ⟨isPath_flip rc hpath, ?_, ?_, ?_⟩
    · simp only [List.forall_mem_map, List.mem_reverse]
      exact fun x hx => List.mem_map_of_mem (hin x hx)
    · rw [keys_flip, List.nodup_reverse]
      exact hsn.map hinj
    · simp only [List.forall_mem_map, List.mem_reverse]
      exact fun x hx e => hvs (hinj e ▸ List.mem_map_of_mem (f := (·.stop)) hx)
  have hsf' : StartFree (mods.map (GMod.flip rc)) := by
    simp only [StartFree, List.forall_mem_map]
    intro x hx y hy hs
    rw [List.inj_on_of_nodup_map hsn (hall x hx) (hall y hy) (hinj hs)]
  have hrc' : C03.NoRc rc (mods.map (GMod.flip rc)) := by
    simp only [C03.NoRc, List.forall_mem_map]
    intro x hx y hy hs
    exact hJ y hy x hx (by simpa [GMod.flip, hinv] using hs.symm)
  obtain ⟨rest', hr⟩ := C03.ok_complete (rc := rc) (sameObj_flip rc hid) (fun e => hv (hinj e).symm) hsf' hrc' hc
  have : rest' = [] := List.eq_nil_iff_forall_not_mem.mpr fun m hm => by
    obtain ⟨_, _, _, _, _, hrest⟩ := C03.ok_sound (sameObj_flip rc hid) hr
    obtain ⟨hm1, hm2⟩ := (hrest m).mp hm
    obtain ⟨x, hx, rfl⟩ := List.mem_map.mp hm1
    exact hm2 (List.mem_map_of_mem (List.mem_reverse.mpr (hall x hx)))
  rw [hr, this]

end Moclo
