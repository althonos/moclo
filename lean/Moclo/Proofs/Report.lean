import Moclo.Model.Assembly
import Moclo.Proofs.Narrow
/-! What a class reports about a record, gathered in one value (`C02.report`: verdict, both overhangs, target,
placeholder), and that value as a function of the *view* — the matched window and the relative marks — or of the
unique fit of the structure.  The names are in the namespace of C02, the property stated in terms of `report`. -/
namespace Moclo.C02
open Moclo

def ThreeGroups (p : Pat) : Prop := 6 ≤ nmarks p

theorem threeGroup_three_groups (pre g1 g2 g3 suf : Pat) : ThreeGroups (threeGroup pre g1 g2 g3 suf) := by
  simp only [ThreeGroups, threeGroup, nmarks_append, nmarks]; omega

/-- everything a class reports about a record: verdict (error or not), upstream and downstream overhangs,
target, placeholder (downstream overhang ++ group 2; meaningful for vectors) -/
def report (c : ClassSpec) (w : Word) : Except Err (Word × Word × Word × Word) :=
  (c.matchSeq w).map (fun m => (m.group w c.upGroup, m.group w c.downGroup, targetWord c w m,
    m.group w 1 ++ m.group w 2))

/-! everything else a class says about a record is a projection of its report -/

theorem isValid_iff_ok (c : ClassSpec) (w : Word) : c.isValid w = true ↔ ∃ m, c.matchSeq w = .ok m := by
  unfold ClassSpec.isValid
  cases c.matchSeq w <;> simp

theorem isValid_eq_report (c : ClassSpec) (w : Word) : c.isValid w = (report c w).toBool := by
  unfold report ClassSpec.isValid; cases c.matchSeq w <;> rfl

theorem fragmentOf_eq_report (c : ClassSpec) (w : Word) :
    fragmentOf c w = match report c w with | .ok r => r.2.2.1 | .error _ => [] := by
  unfold report fragmentOf; cases c.matchSeq w <;> rfl

theorem keys_eq_report (c : ClassSpec) (w : Word) :
    (c.matchSeq w).map (fun m => (upperW (m.group w c.upGroup), upperW (m.group w c.downGroup))) =
      (report c w).map (fun r => (upperW r.1, upperW r.2.1)) := by
  unfold report; cases c.matchSeq w <;> rfl

theorem gmod_eq_report (e : Ent) :
    e.gmod = (report e.spec e.rcd.seq).map (fun r => ⟨upperW r.1, upperW r.2.1, e.oid⟩) := by
  unfold report Ent.gmod; cases e.spec.matchSeq e.rcd.seq <;> rfl

theorem hasGroup_of_three {p : Pat} {text : Word} {rel : List Nat} (h3 : ThreeGroups p)
    (h : relMatch p text = some rel) (g : Nat) (hg : g ≤ 3) : HasGroup rel.reverse g := by
  have hl := (relMatch_marks h).1
  unfold ThreeGroups at h3
  rcases Nat.eq_zero_or_pos g with rfl | hpos
  · exact .inl ⟨rfl, List.ne_nil_of_length_pos (by omega)⟩
  · exact .inr ⟨hpos, by omega⟩

theorem _root_.Moclo.ClassSpec.upGroup_le (c : ClassSpec) : c.upGroup ≤ 3 := by
  unfold ClassSpec.upGroup; cases c.kind <;> simp

theorem _root_.Moclo.ClassSpec.downGroup_le (c : ClassSpec) : c.downGroup ≤ 3 := by
  unfold ClassSpec.downGroup; cases c.kind <;> simp

/-- `_match` as a function of the matched window and the relative marks only: the screen looks at the letters
of group 0 -/
theorem matchSeq_of_view {c : ClassSpec} {w : Word} {i : Nat} {rel : List Nat}
    (hi : i < w.length) (hrel : relMatch c.pat (window w i) = some rel)
    (hs : search c.pat w true = some ⟨i :: rel.reverse.map (· + i)⟩) :
    c.matchSeq w = if validCuts c.geom (vgroup (window w i) rel.reverse 0) > 2 then .error .illegal
      else .ok ⟨i :: rel.reverse.map (· + i)⟩ := by
  unfold ClassSpec.matchSeq
  rw [hs]
  simp only []
  -- the end of the match is always recorded, so group 0 exists
  rw [match_group_view hi hrel 0 (.inl ⟨rfl, List.ne_nil_of_length_pos (by rw [(relMatch_marks hrel).1]; omega)⟩)]

/-- what is reported, as a function of the matched window and the relative marks only -/
theorem report_of_view {c : ClassSpec} {w : Word} {i : Nat} {rel : List Nat} (h3 : ThreeGroups c.pat)
    (hi : i < w.length) (hrel : relMatch c.pat (window w i) = some rel)
    (hs : search c.pat w true = some ⟨i :: rel.reverse.map (· + i)⟩) :
    report c w =
      if validCuts c.geom (vgroup (window w i) rel.reverse 0) > 2 then .error .illegal
      else .ok (vgroup (window w i) rel.reverse c.upGroup, vgroup (window w i) rel.reverse c.downGroup,
                vTarget c.kind (window w i) rel.reverse,
                vgroup (window w i) rel.reverse 1 ++ vgroup (window w i) rel.reverse 2) := by
  have hg := fun g hg => hasGroup_of_three h3 hrel g hg
  unfold report
  rw [matchSeq_of_view hi hrel hs]
  split
  · rfl
  · simp only [Except.map, match_group_view hi hrel 1 (hg 1 (by omega)), match_group_view hi hrel 2 (hg 2 (by omega)),
      targetWord_view hi hrel (hg 1 (by omega)) (hg 2 (by omega)), match_group_view hi hrel _ (hg _ c.upGroup_le),
      match_group_view hi hrel _ (hg _ c.downGroup_le)]

/-- … read off the unique fit of the structure -/
theorem report_of_uniqueFit {c : ClassSpec} {w : Word} {i : Nat} {ms : List Nat} {e : Nat} (h3 : ThreeGroups c.pat)
    (hu : UniqueFit c.pat w) (hi : i < w.length) (hr : Run c.pat (window w i) 0 ms e) :
    report c w =
      if validCuts c.geom (vgroup (window w i) (ms ++ [e]) 0) > 2 then .error .illegal
      else .ok (vgroup (window w i) (ms ++ [e]) c.upGroup, vgroup (window w i) (ms ++ [e]) c.downGroup,
                vTarget c.kind (window w i) (ms ++ [e]),
                vgroup (window w i) (ms ++ [e]) 1 ++ vgroup (window w i) (ms ++ [e]) 2) := by
  obtain ⟨rel, hrel, hrev, hsearch⟩ := hu.search hi hr
  rw [report_of_view h3 hi hrel hsearch, hrev]

theorem matchSeq_of_uniqueFit {c : ClassSpec} {w : Word} {i : Nat} {ms : List Nat} {e : Nat}
    (hu : UniqueFit c.pat w) (hi : i < w.length) (hr : Run c.pat (window w i) 0 ms e) :
    c.matchSeq w = if validCuts c.geom ((window w i).take e) > 2 then .error .illegal
      else .ok ⟨i :: (ms ++ [e]).map (· + i)⟩ := by
  obtain ⟨rel, hrel, hrev, hsearch⟩ := hu.search hi hr
  rw [matchSeq_of_view hi hrel hsearch, hrev]
  simp [vgroup, rspan, slice_zero]

theorem group_of_run {p : Pat} {w : Word} {i : Nat} {ms : List Nat} {e : Nat}
    (hi : i < w.length) (hr : Run p (window w i) 0 ms e) (g : Nat) (hg : HasGroup (ms ++ [e]) g) :
    (⟨i :: (ms ++ [e]).map (· + i)⟩ : Match).group w g = vgroup (window w i) (ms ++ [e]) g :=
  group_view hi (fun x hx => by simpa [window_length w i hi.le] using hr.marks_le x hx) g hg

theorem matchSeq_of_no_run {c : ClassSpec} {w : Word}
    (h : ∀ j ms e, j < w.length → ¬ Run c.pat (window w j) 0 ms e) : c.matchSeq w = .error .invalid := by
  unfold ClassSpec.matchSeq
  rw [search_circ_none fun j hj => relMatch_eq_none_iff.mpr fun ms e => h j ms e hj]

end Moclo.C02
