import Moclo.Proofs.Erase
/-!
# Renumbering then dereferencing gives the cited papers back

`_ref_citations` writes the citations of a product as bracketed numbers into its own reference list;
`_deref_citations`, run on that product when it is an input of the next assembly, must find behind every
number the very paper the source feature cited — whatever the number of papers (no bound on the number of
digits) and however often a paper is cited.

Re-referencing is a `map`: the reference list only grows at its end, so every entry can be numbered against
the *final* list (`rerefRec_feats`).
-/
namespace Moclo

/-- the entry `_ref_citations` writes once the reference list is `refs` -/
def Cite.number (refs : List Nat) : Cite → Cite
  | .ref r => .idx (refs.idxOf r + 1)
  | .idx i => .idx i

/-- the reference list after `_ref_citations` has seen one more entry -/
def Cite.enlist (refs : List Nat) : Cite → List Nat
  | .ref r => if refs.contains r then refs else refs ++ [r]
  | .idx _ => refs

def Feature.number (refs : List Nat) (f : Feature) : Feature := { f with cites := f.cites.map (Cite.number refs) }

theorem enlist_step (refs : List Nat) (c : Cite) :
    refs <+: Cite.enlist refs c ∧ (refs.Nodup → (Cite.enlist refs c).Nodup) ∧
    ∀ r, r ∈ Cite.enlist refs c ↔ r ∈ refs ∨ c = .ref r := by
  cases c with
  | idx i => exact ⟨List.prefix_rfl, id, fun r => (or_iff_left nofun).symm⟩
  | ref x =>
    by_cases hx : x ∈ refs
    · rw [Cite.enlist, if_pos (List.contains_iff_mem.mpr hx)]
      exact ⟨List.prefix_rfl, id, fun r => ⟨.inl, fun h => h.elim id fun e => by cases e; exact hx⟩⟩
    · rw [Cite.enlist, if_neg (by rwa [List.contains_iff_mem])]
      refine ⟨List.prefix_append _ _, fun hn => ?_, fun r => by
        rw [List.mem_append, List.mem_singleton, Cite.ref.injEq, eq_comm]⟩
      exact List.nodup_append.mpr ⟨hn, List.pairwise_singleton _ _, fun a ha b hb e =>
        hx (List.mem_singleton.mp hb ▸ e ▸ ha)⟩

theorem enlist_spec (cs : List Cite) (refs : List Nat) :
    refs <+: cs.foldl Cite.enlist refs ∧ (refs.Nodup → (cs.foldl Cite.enlist refs).Nodup) ∧
    ∀ r, r ∈ cs.foldl Cite.enlist refs ↔ r ∈ refs ∨ Cite.ref r ∈ cs := by
  induction cs generalizing refs with
  | nil => simp
  | cons c cs ih =>
    obtain ⟨h1, h2, h3⟩ := ih (Cite.enlist refs c)
    obtain ⟨g1, g2, g3⟩ := enlist_step refs c
    refine ⟨g1.trans h1, h2 ∘ g2, fun r => ?_⟩
    rw [List.foldl_cons, h3, g3, List.mem_cons, or_assoc, eq_comm]

theorem Cite.number_of_prefix {refs refs' : List Nat} (hp : refs <+: refs') {c : Cite}
    (hc : ∀ r, c = .ref r → r ∈ refs) : Cite.number refs' c = Cite.number refs c := by
  cases c with
  | idx i => rfl
  | ref r =>
    obtain ⟨t, rfl⟩ := hp
    simp [Cite.number, List.idxOf_append_of_mem (hc r rfl)]

theorem rerefCites_eq (refs : List Nat) (cs : List Cite) :
    rerefCites refs cs = (cs.foldl Cite.enlist refs, cs.map (Cite.number (cs.foldl Cite.enlist refs))) := by
  induction cs generalizing refs with
  | nil => rfl
  | cons c cs ih =>
    -- one step of `_ref_citations`, whichever kind of entry `c` is
    have : rerefCites refs (c :: cs) = ((rerefCites (Cite.enlist refs c) cs).1,
        Cite.number (Cite.enlist refs c) c :: (rerefCites (Cite.enlist refs c) cs).2) := by cases c <;> rfl
    rw [this, ih, List.foldl_cons, List.map_cons, Cite.number_of_prefix (enlist_spec cs _).1 fun r hr =>
      ((enlist_step refs c).2.2 r).mpr (.inr hr)]

theorem rerefFeatures_eq (refs : List Nat) (fs : List Feature) :
    rerefFeatures refs fs = ((fs.flatMap (·.cites)).foldl Cite.enlist refs,
      fs.map (Feature.number ((fs.flatMap (·.cites)).foldl Cite.enlist refs))) := by
  induction fs generalizing refs with
  | nil => rfl
  | cons f fs ih =>
    have := List.map_congr_left fun c hc => Cite.number_of_prefix
      (enlist_spec (fs.flatMap (·.cites)) (f.cites.foldl Cite.enlist refs)).1
      fun r hr => ((enlist_spec f.cites refs).2.2 r).mpr (.inr (hr ▸ hc))
    simp only [rerefFeatures, rerefCites_eq, ih, List.flatMap_cons, List.foldl_append, List.map_cons, Feature.number, this]

theorem rerefFeatures_length (refs : List Nat) (fs : List Feature) :
    (rerefFeatures refs fs).2.length = fs.length := by
  rw [rerefFeatures_eq]; exact List.length_map _

theorem rerefRec_refs (r : Rec) : (rerefRec r).refs = (r.feats.flatMap (·.cites)).foldl Cite.enlist r.refs := by
  simp only [rerefRec, rerefFeatures_eq]

theorem rerefRec_feats (r : Rec) : (rerefRec r).feats = r.feats.map (Feature.number (rerefRec r).refs) := by
  simp only [rerefRec, rerefFeatures_eq]

theorem mem_rerefRec_refs {r : Rec} {x : Nat} :
    x ∈ (rerefRec r).refs ↔ x ∈ r.refs ∨ ∃ f ∈ r.feats, Cite.ref x ∈ f.cites := by
  rw [rerefRec_refs, (enlist_spec _ _).2.2, List.mem_flatMap]

/-- every citation entry is a dereferenced paper -/
def AllRefs (cs : List Cite) : Prop := ∀ c ∈ cs, ∃ r, c = Cite.ref r

theorem derefRec_rerefRec (r : Rec) (hall : ∀ f ∈ r.feats, AllRefs f.cites) :
    derefRec (rerefRec r) = some { r with refs := (rerefRec r).refs } := by
  refine derefRec_eq_some.mpr ⟨rfl, ?_⟩
  rw [rerefRec_feats]
  refine List.forall₂_map_left_iff.mpr (List.forall₂_same.mpr fun f hf => derefFeature_eq_some.mpr ⟨rfl, ?_⟩)
  refine List.forall₂_map_left_iff.mpr (List.forall₂_same.mpr fun c hc => ?_)
  obtain ⟨x, rfl⟩ := hall f hf c hc
  simp [Cite.number, derefCite, List.getElem?_idxOf (mem_rerefRec_refs.mpr (.inr ⟨f, hf, hc⟩))]

/-- **next level**: the numbered citations of a product, dereferenced against the product's own reference
list, are the papers its features cited before the renumbering -/
theorem deref_reref (pre : Rec) (hall : ∀ f ∈ pre.feats, AllRefs f.cites) :
    derefRec (rerefRec { pre with refs := [] }) =
      some { pre with refs := (rerefRec { pre with refs := [] }).refs } :=
  derefRec_rerefRec { pre with refs := [] } hall

end Moclo
