import Moclo.Proofs.Narrow
/-! `allRuns` enumerates exactly the runs; hence "exactly one fit" is checkable by computation. -/
namespace Moclo

theorem mem_allRuns : ∀ (ts : Pat) (xs : Word) (p : Nat) (ms : List Nat) (e : Nat),
    (ms, e) ∈ allRuns ts xs p ↔ Run ts xs p ms e := by
  intro ts
  induction ts with
  | nil => intro xs p ms e; simp [allRuns, Run.nil_iff]
  | cons t ts ih =>
    intro xs p ms e
    cases t with
    | cls c =>
      cases xs with
      | nil => simp [allRuns, Run.cls_iff]
      | cons x xs =>
        simp only [allRuns, Run.cls_iff, List.cons.injEq, ← ih]
        split <;> simp_all
    | gopen | gclose =>
      simp only [allRuns, Run.gopen_iff, Run.gclose_iff, ← ih, List.mem_map, Prod.mk.injEq, Prod.exists]
      exact ⟨fun ⟨a, b, h, h1, h2⟩ => ⟨a, h1.symm, h2 ▸ h⟩, fun ⟨a, h1, h⟩ => ⟨a, e, h, h1.symm, rfl⟩⟩
    | star c g =>
      simp only [allRuns, Run.star_iff, List.mem_flatMap, List.mem_range, Nat.lt_succ_iff, le_runLen_iff, ih,
        and_assoc]

theorem mem_allFits (p : Pat) (w : Word) (i : Nat) (ms : List Nat) (e : Nat) :
    (i, ms, e) ∈ allFits p w ↔ i < w.length ∧ Run p (window w i) 0 ms e := by
  unfold allFits
  simp only [List.mem_flatMap, List.mem_range, List.mem_map, Prod.mk.injEq, Prod.exists]
  constructor
  · rintro ⟨j, hj, ms', e', hm, rfl, rfl, rfl⟩
    exact ⟨hj, (mem_allRuns _ _ _ _ _).mp hm⟩
  · rintro ⟨hi, hr⟩
    exact ⟨i, hi, ms, e, (mem_allRuns _ _ _ _ _).mpr hr, rfl, rfl, rfl⟩

theorem uniqueFit_of_count {p : Pat} {w : Word} (h : (allFits p w).length = 1) : UniqueFit p w := by
  obtain ⟨⟨i, ms, e⟩, hl⟩ := List.length_eq_one_iff.mp h
  have hm : ∀ {j ms' e'}, j < w.length ∧ Run p (window w j) 0 ms' e' ↔ (j, ms', e') = (i, ms, e) := by
    intros; rw [← mem_allFits, hl, List.mem_singleton]
  obtain ⟨hi, hr⟩ := hm.mpr rfl
  exact ⟨i, ms, e, hi, hr, fun j ms' e' hj hr' => by simpa using hm.mp ⟨hj, hr'⟩⟩

/-- conversely a unique fit is the only entry up to repetition -/
theorem allFits_of_uniqueFit {p : Pat} {w : Word} (h : UniqueFit p w) :
    ∃ i ms e, ∀ x ∈ allFits p w, x = (i, ms, e) := by
  obtain ⟨i, ms, e, _, _, hu⟩ := h
  refine ⟨i, ms, e, ?_⟩
  rintro ⟨j, ms', e'⟩ hx
  obtain ⟨hj, hr⟩ := (mem_allFits p w j ms' e').mp hx
  obtain ⟨rfl, rfl, rfl⟩ := hu j ms' e' hj hr
  rfl

end Moclo
