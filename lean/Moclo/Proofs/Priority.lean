import Moclo.Proofs.Run
/-! Which fit the matcher reports when several exist at one start: Python's `re` is a priority backtracker —
the first greedy run takes the longest length for which the rest of the pattern can still fit, the first lazy
run the shortest, and later runs are decided likewise given the earlier choices. -/
namespace Moclo

/-- `Best ts xs p ms e`: the fit of highest priority — a `Run` in which every wildcard run has the most
preferred length (longest for greedy, shortest for lazy) for which the rest of the pattern fits at all -/
inductive Best : Pat → Word → Nat → List Nat → Nat → Prop
  | nil (xs p) : Best [] xs p [] p
  | cls {c x ts xs p ms e} : clsMatch c x = true → Best ts xs (p+1) ms e → Best (.cls c :: ts) (x :: xs) p ms e
  | gopen {ts xs p ms e} : Best ts xs p ms e → Best (.gopen :: ts) xs p (p :: ms) e
  | gclose {ts xs p ms e} : Best ts xs p ms e → Best (.gclose :: ts) xs p (p :: ms) e
  | star {c g ts xs p ms e} (j : Nat) : j ≤ xs.length → (∀ x ∈ xs.take j, clsMatch c x = true) →
      Best ts (xs.drop j) (p + j) ms e →
      (∀ j', (if g then j < j' else j' < j) → j' ≤ xs.length → (∀ x ∈ xs.take j', clsMatch c x = true) →
        ∀ ms' e', ¬ Run ts (xs.drop j') (p + j') ms' e') →
      Best (.star c g :: ts) xs p ms e

theorem Best.toRun {ts xs p ms e} (h : Best ts xs p ms e) : Run ts xs p ms e := by
  induction h with
  | nil => exact Run.nil _ _
  | cls hc _ ih => exact Run.cls hc ih
  | gopen _ ih => exact Run.gopen ih
  | gclose _ ih => exact Run.gclose ih
  | star j hj hall _ _ ih => exact Run.star j hj hall ih

theorem Best.unique {ts xs p ms e ms' e'} (h : Best ts xs p ms e) (h' : Best ts xs p ms' e') : ms = ms' ∧ e = e' := by
  induction h generalizing ms' e' with
  | nil => cases h'; exact ⟨rfl, rfl⟩
  | cls _ _ ih => cases h' with | cls _ h2 => exact ih h2
  | gopen _ ih | gclose _ ih => cases h'; obtain ⟨a, b⟩ := ih ‹_›; exact ⟨by rw [a], b⟩
  | @star c g ts xs p ms e j hj hall hb hmin ih =>
    cases h' with
    | star j2 hj2 hall2 hb2 hmin2 =>
      -- were the two lengths different, one would be preferred to the other, which then leaves no run
      obtain rfl : j = j2 := by
        by_contra hne
        have : (if g then j < j2 else j2 < j) ∨ (if g then j2 < j else j < j2) := by
          cases g; exacts [(Nat.lt_or_gt_of_ne hne).symm, Nat.lt_or_gt_of_ne hne]
        exact this.elim (fun h => hmin j2 h hj2 hall2 _ _ hb2.toRun) fun h => hmin2 j h hj hall _ _ hb.toRun
      exact ih hb2

theorem matchToks_spec : ∀ (ts : Pat) (xs : Word) (pos : Nat) (acc : List Nat),
    (∀ r, matchToks ts xs pos acc = some r → ∃ ms e, Best ts xs pos ms e ∧ r = e :: (ms.reverse ++ acc)) ∧
    (matchToks ts xs pos acc = none → ∀ ms e, ¬ Run ts xs pos ms e) := by
  intro ts
  induction ts with
  | nil => exact fun xs pos acc => ⟨fun r h => ⟨[], pos, .nil _ _, (Option.some.inj h).symm⟩, nofun⟩
  | cons t ts ih =>
    intro xs pos acc
    cases t with
    | cls c =>
      cases xs with
      | nil => exact ⟨nofun, fun _ _ _ hr => nomatch hr⟩
      | cons x xs =>
        simp only [matchToks]
        split
        · rename_i hc
          refine ⟨fun r h => ?_, fun h ms e hr => ?_⟩
          · obtain ⟨ms, e, hb, he⟩ := (ih xs (pos+1) acc).1 r h
            exact ⟨ms, e, .cls hc hb, he⟩
          · cases hr with | cls _ hr => exact (ih xs (pos+1) acc).2 h ms e hr
        · rename_i hc
          exact ⟨nofun, fun _ ms e hr => by cases hr with | cls h _ => exact hc h⟩
    | gopen | gclose =>
      refine ⟨fun r h => ?_, fun h ms e hr => ?_⟩
      · obtain ⟨ms, e, hb, he⟩ := (ih xs pos (pos :: acc)).1 r h
        exact ⟨pos :: ms, e, by constructor; exact hb, by simp [he]⟩
      · cases hr; exact (ih xs pos (pos :: acc)).2 h _ e ‹_›
    | star c g =>
      rw [matchToks_star]
      refine ⟨fun r h => ?_, fun h ms e hr => ?_⟩
      · obtain ⟨j, hj, hk, hn⟩ := pick_eq_some_iff.mp h
        obtain ⟨ms, e, hb, he⟩ := (ih _ _ _).1 r hk
        obtain ⟨hjl, hall⟩ := le_runLen_iff.mp hj
        -- the more preferred lengths were tried and failed: by the failure half of `ih` they admit no run
        exact ⟨ms, e, .star j hjl hall hb fun j' hlt hj' hall' =>
          (ih _ _ _).2 (hn j' (le_runLen_iff.mpr ⟨hj', hall'⟩) hlt), he⟩
      · cases hr with
        | star j hj hall hr =>
          exact (ih _ _ _).2 (pick_eq_none_iff.mp h j (le_runLen_iff.mpr ⟨hj, hall⟩)) ms e hr

theorem matchToks_eq_none_iff {ts : Pat} {xs : Word} {pos : Nat} {acc : List Nat} :
    matchToks ts xs pos acc = none ↔ ∀ ms e, ¬ Run ts xs pos ms e := by
  refine ⟨(matchToks_spec ts xs pos acc).2, fun h => ?_⟩
  cases hm : matchToks ts xs pos acc with
  | none => rfl
  | some r => obtain ⟨ms, e, hb, _⟩ := (matchToks_spec ts xs pos acc).1 r hm; exact absurd hb.toRun (h ms e)

theorem matchToks_eq_some_iff {ts : Pat} {xs : Word} {pos : Nat} {acc r : List Nat} :
    matchToks ts xs pos acc = some r ↔ ∃ ms e, Best ts xs pos ms e ∧ r = e :: (ms.reverse ++ acc) := by
  refine ⟨(matchToks_spec ts xs pos acc).1 r, fun ⟨ms, e, hb, hr⟩ => ?_⟩
  cases hm : matchToks ts xs pos acc with
  | none => exact absurd hb.toRun (matchToks_eq_none_iff.mp hm ms e)
  | some r' =>
    obtain ⟨ms', e', hb', hr'⟩ := (matchToks_spec ts xs pos acc).1 r' hm
    obtain ⟨rfl, rfl⟩ := hb.unique hb'
    rw [hr, hr']

/-- soundness: a successful run yields a fit; the final position is start + consumed length -/
theorem matchToks_sound : ∀ (ts : Pat) (xs : Word) (pos : Nat) (acc r : List Nat),
    matchToks ts xs pos acc = some r → ∃ n, Fits ts xs n ∧ r.head? = some (pos + n) := by
  intro ts xs pos acc r h
  obtain ⟨ms, e, hb, rfl⟩ := matchToks_eq_some_iff.mp h
  obtain ⟨n, hf, rfl⟩ := hb.toRun.toFits
  exact ⟨n, hf, rfl⟩

theorem matchToks_complete (ts : Pat) (xs : Word) (pos : Nat) (acc : List Nat)
    (h : matchToks ts xs pos acc = none) (n : Nat) : ¬ Fits ts xs n :=
  fun hf => let ⟨ms, hr⟩ := hf.toRun pos; matchToks_eq_none_iff.mp h ms _ hr

theorem matchToks_isSome_iff (ts : Pat) (xs : Word) (pos : Nat) (acc : List Nat) :
    (matchToks ts xs pos acc).isSome ↔ ∃ n, Fits ts xs n := by
  cases h : matchToks ts xs pos acc with
  | none => simpa using matchToks_complete ts xs pos acc h
  | some r => obtain ⟨n, hf, _⟩ := matchToks_sound ts xs pos acc r h; simpa using ⟨n, hf⟩

end Moclo
