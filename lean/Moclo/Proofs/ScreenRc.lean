import Moclo.Proofs.Screen
import Moclo.Proofs.RevComp
/-! The illegal-site screen counts the same number of valid cuts on both strands. -/
namespace Moclo

theorem siteAt_rc (site : List Nt) (T : Word) (i : Nat) (hi : i + site.length ≤ T.length) :
    siteAt site (rc T) (T.length - i - site.length) = siteAt (rcNt site) T i := by
  rw [siteAt_eq_slice, siteAt_eq_slice, rcNt_length, Nat.sub_sub,
    show T.length - (i + site.length) + site.length = T.length - i by omega, slice_rc T i _ (by omega),
    rcNt_map_rc, Bool.eq_iff_iff, beq_iff_eq, beq_iff_eq]
  exact ⟨fun h => (rcNt_rcNt _).symm.trans (congrArg rcNt h), fun h => (congrArg rcNt h).trans (rcNt_rcNt _)⟩

/-- the mirror image of a valid cut is a valid cut of the other strand: a forward site becomes a reverse site
and the two cut positions are exchanged -/
theorem cutAt_mirror {g : Geom} {T : Word} {i : Nat} (hnp : g.site ≠ rcNt g.site) (hs : 1 ≤ g.site.length)
    (h : cutAt g T i = true) : cutAt g (rc T) (T.length - i - g.site.length) = true := by
  have hi := cutAt_true_length h hs
  rcases (cutAt_iff g T i).mp h with ⟨hf, -, h2⟩ | ⟨-, hr, h1, -⟩
  · refine cutAt_reverse g (rc T) _ hnp ?_ (by omega) (by rw [rc_length]; omega)
    rw [← rcNt_length g.site, siteAt_rc _ _ _ (by rwa [rcNt_length]), rcNt_rcNt]; exact hf
  · exact cutAt_forward g (rc T) _ (by rw [siteAt_rc _ _ _ hi]; exact hr) (by rw [rc_length]; omega) hs

theorem validCuts_le_rc (g : Geom) (T : Word) (hnp : g.site ≠ rcNt g.site) (hs : 1 ≤ g.site.length) :
    validCuts g T ≤ validCuts g (rc T) := by
  have hin := fun i (hi : i ∈ (List.range T.length).filter (cutAt g T)) => (List.mem_filter.mp hi).2
  have := length_le_validCuts (T := rc T) hs
    (l := ((List.range T.length).filter (cutAt g T)).map (T.length - · - g.site.length))
    ((List.nodup_range.filter _).map_on fun a ha b hb hab => by
      have := cutAt_true_length (hin a ha) hs; have := cutAt_true_length (hin b hb) hs; omega)
    fun x hx => by obtain ⟨i, hi, rfl⟩ := List.mem_map.mp hx; exact cutAt_mirror hnp hs (hin i hi)
  rwa [List.length_map] at this

/-- **the screen is strand-symmetric**: the reverse complement of a text has exactly as many valid cuts -/
theorem validCuts_rc (g : Geom) (T : Word) (hnp : g.site ≠ rcNt g.site) (hs : 1 ≤ g.site.length) :
    validCuts g (rc T) = validCuts g T :=
  Nat.le_antisymm (by simpa only [rc_rc] using validCuts_le_rc g (rc T) hnp hs) (validCuts_le_rc g T hnp hs)

end Moclo
