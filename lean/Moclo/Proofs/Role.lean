import Moclo.Proofs.Assembly
/-! The outcome of an assembly depends on each input only through its overhang pair and what its extraction
yields.  Stated once, for any relation `R` between extracted records that appending respects: the outcomes are
then the same error, or products whose records are related by `R`.  `R` = "same sequence" gives the role
congruence (`Proofs/SameRole`), `R` = "same up to letter case" the one for respellings (`Proofs/Case`). -/
namespace Moclo

/-- `d'` can stand for `d` when targets are extracted: the same object, and extractions that fail alike or
yield records related by `R` -/
structure ExtractRel (R : Rec → Rec → Prop) (d d' : Ent) : Prop where
  oid : d'.oid = d.oid
  extract : Except.Rel R d.extract d'.extract

/-- `e'` can stand for `e` in an assembly: the same overhang pair or rejection, citations well formed alike, and
dereferenced copies that stand for each other -/
structure RoleRel (R : Rec → Rec → Prop) (e e' : Ent) : Prop where
  gmod : e'.gmod = e.gmod
  deref : Option.Rel (ExtractRel R) e.deref e'.deref

variable {R : Rec → Rec → Prop}

theorem evalPrefix_map {f : GMod Word → GMod Word} {ms ms' : List Ent}
    (h : List.Forall₂ (fun e e' => e'.gmod = e.gmod.map f) ms ms') :
    evalPrefix ms' = ((evalPrefix ms).1.map f, (evalPrefix ms).2) := by
  induction h with
  | nil => rfl
  | @cons e _ _ _ he _ ih =>
    rw [evalPrefix, evalPrefix, he, ih]
    cases e.gmod <;> rfl

theorem evalPrefix_congr {ms ms' : List Ent} (h : List.Forall₂ (fun e e' => e'.gmod = e.gmod) ms ms') :
    evalPrefix ms' = evalPrefix ms := by
  simpa using evalPrefix_map (f := id) (h.imp fun _ _ he => by simpa using he)

theorem extractOid_rel {ds ds' : List Ent} (h : List.Forall₂ (ExtractRel R) ds ds') (k : Nat) :
    Except.Rel R (extractOid ds k) (extractOid ds' k) := by
  have hf := find?_oid_rel h (fun _ _ h => h.oid) k
  unfold extractOid
  generalize ds.find? (fun e => e.oid = k) = a, ds'.find? (fun e => e.oid = k) = b at hf
  cases hf with
  | none => rfl
  | some h => exact h.extract

theorem extractChain_rel (happ : ∀ a a' t t', R a a' → R t t' → R (a.append t) (a'.append t'))
    {ds ds' : List Ent} (h : List.Forall₂ (ExtractRel R) ds ds') (chain : List (GMod Word)) {acc acc' : Rec}
    (hacc : R acc acc') : Except.Rel R (extractChain ds chain acc) (extractChain ds' chain acc') := by
  induction chain generalizing acc acc' with
  | nil => exact hacc
  | cons g gs ih =>
    rw [extractChain_cons, extractChain_cons]
    exact (extractOid_rel h g.oid).bind fun t t' ht => ih (happ _ _ _ _ hacc ht)

/-- **the outcome depends on the inputs only through their roles**, up to `R` -/
theorem assemble_rel {P : Product → Product → Prop} {v v' : Ent} {mods mods' : List Ent} {pid pname : Nat}
    (h0 : R ⟨0, [], [], []⟩ ⟨0, [], [], []⟩)
    (happ : ∀ a a' t t', R a a' → R t t' → R (a.append t) (a'.append t'))
    (hP : ∀ x x' rest, R x x' →
      P ⟨rerefRec { x with rid := pid, refs := [] }, pid, pname, v.rcd.rid, mods.map (·.rcd.rid), rest⟩
        ⟨rerefRec { x' with rid := pid, refs := [] }, pid, pname, v'.rcd.rid, mods'.map (·.rcd.rid), rest⟩)
    (hv : RoleRel R v v') (hm : List.Forall₂ (RoleRel R) mods mods') :
    Except.Rel P (assemble v mods pid pname).1 (assemble v' mods' pid pname).1 := by
  rw [assemble_eq, assemble_eq]
  have hmap : assembleMap v' mods' = assembleMap v mods := by
    unfold assembleMap; rw [hv.gmod, evalPrefix_congr (hm.imp fun _ _ h => h.gmod)]
  rw [hmap]
  cases assembleMap v mods with
  | error e => exact rfl
  | ok gm =>
    obtain ⟨gv, map⟩ := gm
    have hds := hm.mapM_option (fun _ _ h => h.deref)
    have hdv := hv.deref
    dsimp only [Except.bind]
    generalize mods.mapM Ent.deref = a, mods'.mapM Ent.deref = a', v.deref = b, v'.deref = b' at hds hdv
    cases hds with
    | none => exact rfl
    | some hds =>
      cases hdv with
      | none => exact rfl
      | some hdv =>
        dsimp only
        rw [assembleCore_eq, assembleCore_eq]
        obtain ⟨chain, rest, stall⟩ := gWalk gv.start (map.length + 1) gv.stop map
        refine (extractChain_rel happ hds chain h0).bind fun acc acc' hacc => ?_
        cases stall with
        | some o => exact rfl
        | none => exact hdv.extract.bind fun vt vt' hvt => hP _ _ _ (happ _ _ _ _ hacc hvt)

end Moclo
