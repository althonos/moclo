import Moclo.Model.Regex
import Moclo.Proofs.Word
/-! The candidate loops of the matcher return the first success in their order of trial (`firstDown`, `firstUp`;
`pick` is the two as one, for a greedy or a lazy run); `runLen`; the declarative `Fits`.  The matcher is a
function of the text only, its marks being relative to the start (`matchToks_shift`), and of the nucleotide
codes only (`matchToks_congr_nt`). -/
namespace Moclo

/-- declarative: pattern `ts` fits a prefix of `xs` consuming `len` letters -/
inductive Fits : Pat → Word → Nat → Prop
  | nil (xs) : Fits [] xs 0
  | cls {c x ts xs n} : clsMatch c x = true → Fits ts xs n → Fits (.cls c :: ts) (x :: xs) (n+1)
  | gopen {ts xs n} : Fits ts xs n → Fits (.gopen :: ts) xs n
  | gclose {ts xs n} : Fits ts xs n → Fits (.gclose :: ts) xs n
  | star {c g ts xs n} (j : Nat) : j ≤ xs.length → (∀ x ∈ xs.take j, clsMatch c x = true) →
      Fits ts (xs.drop j) n → Fits (.star c g :: ts) xs (j + n)

theorem firstUp_eq_some_iff {R} {k : Nat → Option R} {j fuel : Nat} {r : R} :
    firstUp k j fuel = some r ↔
      ∃ i, j ≤ i ∧ i < j + fuel ∧ k i = some r ∧ ∀ i', j ≤ i' → i' < i → k i' = none := by
  induction fuel generalizing j with
  | zero => exact ⟨nofun, fun ⟨i, a, b, _⟩ => absurd b (Nat.not_lt.mpr a)⟩
  | succ f ih =>
    unfold firstUp
    cases hk : k j with
    | some r' =>
      refine ⟨fun h => ⟨j, Nat.le_refl _, Nat.lt_add_of_pos_right (Nat.succ_pos _), hk.trans h,
        fun i' a b => absurd b (Nat.not_lt.mpr a)⟩, ?_⟩
      rintro ⟨i, h1, _, h3, h4⟩
      rcases Nat.eq_or_lt_of_le h1 with rfl | hlt
      · exact hk.symm.trans h3
      · exact absurd (hk.symm.trans (h4 j (Nat.le_refl _) hlt)) nofun
    | none =>
      refine (ih (j := j + 1)).trans ⟨?_, ?_⟩ <;> rintro ⟨i, h1, h2, h3, h4⟩
      · exact ⟨i, Nat.le_of_succ_le h1, by rwa [Nat.add_right_comm] at h2, h3, fun i' a b =>
          (Nat.eq_or_lt_of_le a).elim (fun e => e ▸ hk) (fun a' => h4 i' a' b)⟩
      · have hlt : j < i := Nat.lt_of_le_of_ne h1 fun e => absurd ((e ▸ h3).symm.trans hk) nofun
        exact ⟨i, hlt, by rwa [Nat.add_right_comm], h3, fun i' a b => h4 i' (Nat.le_of_succ_le a) b⟩

theorem firstUp_eq_none_iff {R} {k : Nat → Option R} {j fuel : Nat} :
    firstUp k j fuel = none ↔ ∀ i, j ≤ i → i < j + fuel → k i = none := by
  induction fuel generalizing j with
  | zero => exact ⟨fun _ i a b => absurd b (Nat.not_lt.mpr a), fun _ => rfl⟩
  | succ f ih =>
    unfold firstUp
    cases hk : k j with
    | some r' =>
      exact ⟨nofun, fun h => absurd (hk.symm.trans (h j (Nat.le_refl _) (Nat.lt_add_of_pos_right (Nat.succ_pos _)))) nofun⟩
    | none =>
      refine (ih (j := j + 1)).trans ⟨fun h i a b => ?_, fun h i a b => h i (Nat.le_of_succ_le a) (by rwa [Nat.add_right_comm] at b)⟩
      exact (Nat.eq_or_lt_of_le a).elim (fun e => e ▸ hk) fun a' => h i a' (by rwa [Nat.add_right_comm])

theorem firstDown_eq_some_iff {R} {k : Nat → Option R} {m : Nat} {r : R} :
    firstDown k m = some r ↔ ∃ j, j ≤ m ∧ k j = some r ∧ ∀ j', j' ≤ m → j < j' → k j' = none := by
  induction m with
  | zero =>
    exact ⟨fun h => ⟨0, Nat.le_refl _, h, fun j' a b => absurd b (Nat.not_lt.mpr a)⟩,
      fun ⟨j, hj, h, _⟩ => by obtain rfl := Nat.le_zero.mp hj; exact h⟩
  | succ m ih =>
    unfold firstDown
    cases hk : k (m + 1) with
    | some r' =>
      refine ⟨fun h => ⟨m + 1, Nat.le_refl _, hk.trans h, fun j' a b => absurd b (Nat.not_lt.mpr a)⟩, ?_⟩
      rintro ⟨j, h1, h3, h4⟩
      rcases Nat.eq_or_lt_of_le h1 with rfl | hlt
      · exact hk.symm.trans h3
      · exact absurd (hk.symm.trans (h4 (m + 1) (Nat.le_refl _) hlt)) nofun
    | none =>
      refine ih.trans ⟨?_, ?_⟩ <;> rintro ⟨j, h1, h3, h4⟩
      · exact ⟨j, Nat.le_succ_of_le h1, h3, fun j' a b =>
          (Nat.eq_or_lt_of_le a).elim (fun e => e ▸ hk) fun a' => h4 j' (Nat.le_of_lt_succ a') b⟩
      · have hlt : j < m + 1 := Nat.lt_of_le_of_ne h1 fun e => absurd ((e ▸ h3).symm.trans hk) nofun
        exact ⟨j, Nat.le_of_lt_succ hlt, h3, fun j' a b => h4 j' (Nat.le_succ_of_le a) b⟩

theorem firstDown_mem {R} {k : Nat → Option R} {m : Nat} {r : R} (h : firstDown k m = some r) :
    ∃ j, k j = some r := by obtain ⟨j, _, hj, _⟩ := firstDown_eq_some_iff.mp h; exact ⟨j, hj⟩

theorem firstDown_eq_none_iff {R} {k : Nat → Option R} {m : Nat} :
    firstDown k m = none ↔ ∀ j, j ≤ m → k j = none := by
  induction m with
  | zero => exact ⟨fun h j hj => (Nat.le_zero.mp hj) ▸ h, fun h => h 0 (Nat.le_refl _)⟩
  | succ m ih =>
    unfold firstDown
    cases hk : k (m + 1) with
    | some r' => exact ⟨nofun, fun h => absurd (hk.symm.trans (h (m + 1) (Nat.le_refl _))) nofun⟩
    | none =>
      exact ih.trans ⟨fun h j a => (Nat.eq_or_lt_of_le a).elim (fun e => e ▸ hk) fun a' => h j (Nat.le_of_lt_succ a'),
        fun h j a => h j (Nat.le_succ_of_le a)⟩

theorem firstDown_congr {R} {k k' : Nat → Option R} (m : Nat) (h : ∀ j, j ≤ m → k j = k' j) :
    firstDown k m = firstDown k' m := by
  induction m with
  | zero => simp [firstDown, h 0 (Nat.le_refl _)]
  | succ m ih =>
    unfold firstDown
    rw [h (m+1) (Nat.le_refl _), ih (fun j hj => h j (by omega))]

theorem firstUp_congr {R} {k k' : Nat → Option R} (j fuel : Nat) (h : ∀ i, j ≤ i → i < j + fuel → k i = k' i) :
    firstUp k j fuel = firstUp k' j fuel := by
  induction fuel generalizing j with
  | zero => rfl
  | succ f ih =>
    unfold firstUp
    rw [h j (Nat.le_refl _) (by omega), ih (j+1) (fun i h1 h2 => h i (by omega) (by omega))]

theorem firstDown_map {R S} (f : R → S) (k : Nat → Option R) (m : Nat) :
    firstDown (fun j => (k j).map f) m = (firstDown k m).map f := by
  induction m with
  | zero => rfl
  | succ m ih =>
    unfold firstDown
    cases h : k (m+1) <;> simp [ih]

theorem firstUp_map {R S} (f : R → S) (k : Nat → Option R) (j fuel : Nat) :
    firstUp (fun j => (k j).map f) j fuel = (firstUp k j fuel).map f := by
  induction fuel generalizing j with
  | zero => rfl
  | succ n ih =>
    unfold firstUp
    cases h : k j <;> simp [ih]

/-- the lengths `0..m` of a wildcard run in the order the matcher tries them: longest first if greedy,
shortest first if lazy -/
def pick {R : Type} (g : Bool) (k : Nat → Option R) (m : Nat) : Option R :=
  if g then firstDown k m else firstUp k 0 (m+1)

theorem matchToks_star (c : Nt) (g : Bool) (ts : Pat) (xs : Word) (pos : Nat) (acc : List Nat) :
    matchToks (.star c g :: ts) xs pos acc =
      pick g (fun j => matchToks ts (xs.drop j) (pos+j) acc) (runLen c xs) := rfl

theorem pick_eq_some_iff {R} {g : Bool} {k : Nat → Option R} {m : Nat} {r : R} :
    pick g k m = some r ↔
      ∃ j, j ≤ m ∧ k j = some r ∧ ∀ j', j' ≤ m → (if g then j < j' else j' < j) → k j' = none := by
  cases g with
  | true => exact firstDown_eq_some_iff
  | false =>
    refine firstUp_eq_some_iff.trans ⟨?_, ?_⟩
    · rintro ⟨j, _, h2, h3, h4⟩; exact ⟨j, by omega, h3, fun j' _ b => h4 j' (Nat.zero_le _) b⟩
    · rintro ⟨j, h2, h3, h4⟩; exact ⟨j, Nat.zero_le _, by omega, h3, fun j' _ b => h4 j' (by omega) b⟩

theorem pick_eq_none_iff {R} {g : Bool} {k : Nat → Option R} {m : Nat} :
    pick g k m = none ↔ ∀ j, j ≤ m → k j = none := by
  cases g with
  | true => exact firstDown_eq_none_iff
  | false => exact firstUp_eq_none_iff.trans ⟨fun h j a => h j (Nat.zero_le _) (by omega), fun h j _ b => h j (by omega)⟩

theorem pick_congr {R} {k k' : Nat → Option R} (g : Bool) (m : Nat) (h : ∀ j, j ≤ m → k j = k' j) :
    pick g k m = pick g k' m := by
  cases g with
  | true => exact firstDown_congr m h
  | false => exact firstUp_congr 0 (m+1) fun j _ b => h j (by omega)

theorem pick_map {R S} (f : R → S) (g : Bool) (k : Nat → Option R) (m : Nat) :
    pick g (fun j => (k j).map f) m = (pick g k m).map f := by
  cases g with
  | true => exact firstDown_map f k m
  | false => exact firstUp_map f k 0 (m+1)

theorem le_runLen_iff {c : Nt} {xs : Word} {j : Nat} :
    j ≤ runLen c xs ↔ j ≤ xs.length ∧ ∀ x ∈ xs.take j, clsMatch c x = true := by
  induction xs generalizing j with
  | nil => simp [runLen]
  | cons y ys ih =>
    cases j with
    | zero => simp
    | succ j =>
      by_cases hy : clsMatch c y = true <;> simp [runLen, hy, ih]

/-- the marks of an anchored match relative to its start (reversed, as recorded) -/
def relMatch (ts : Pat) (xs : Word) : Option (List Nat) := matchToks ts xs 0 []

theorem matchToks_add : ∀ (ts : Pat) (xs : Word) (q d : Nat) (acc acc' : List Nat),
    matchToks ts xs (q + d) (acc.map (· + d) ++ acc') =
      (matchToks ts xs q acc).map (fun r => r.map (· + d) ++ acc') := by
  intro ts
  induction ts with
  | nil => intros; simp [matchToks]
  | cons t ts ih =>
    intro xs q d acc acc'
    cases t with
    | cls c =>
      cases xs with
      | nil => rfl
      | cons x xs =>
        simp only [matchToks]
        split
        · rw [Nat.add_right_comm]; exact ih ..
        · rfl
    | gopen | gclose => exact ih xs q d (q :: acc) acc'
    | star c g =>
      rw [matchToks_star, matchToks_star, ← pick_map]
      exact pick_congr _ _ fun j _ => by rw [Nat.add_right_comm]; exact ih ..

theorem matchToks_shift : ∀ (ts : Pat) (xs : Word) (pos : Nat) (acc : List Nat),
    matchToks ts xs pos acc = (relMatch ts xs).map (fun r => r.map (· + pos) ++ acc) := by
  intro ts xs pos acc
  simpa [relMatch] using matchToks_add ts xs 0 pos [] acc

theorem runLen_congr_nt (c : Nt) {xs ys : Word} (h : xs.map (·.nt) = ys.map (·.nt)) :
    runLen c xs = runLen c ys := by
  induction ys generalizing xs with
  | nil => rw [List.map_eq_nil_iff.mp h]
  | cons y ys ih =>
    obtain ⟨x, xs, rfl, h1, h2⟩ := List.map_eq_cons_iff.mp h
    simp [runLen, clsMatch, h1, ih h2]

/-- the matcher only looks at the nucleotide codes, never at the case -/
theorem matchToks_congr_nt : ∀ (ts : Pat) (xs ys : Word) (pos : Nat) (acc : List Nat),
    xs.map (·.nt) = ys.map (·.nt) → matchToks ts xs pos acc = matchToks ts ys pos acc := by
  intro ts
  induction ts with
  | nil => intros; rfl
  | cons t ts ih =>
    intro xs ys pos acc h
    cases t with
    | cls c =>
      cases ys with
      | nil => rw [List.map_eq_nil_iff.mp h]
      | cons y ys =>
        obtain ⟨x, xs, rfl, h1, h2⟩ := List.map_eq_cons_iff.mp h
        simp [matchToks, clsMatch, h1, ih xs ys _ _ h2]
    | gopen | gclose => exact ih _ _ _ _ h
    | star c g =>
      rw [matchToks_star, matchToks_star, runLen_congr_nt c h]
      exact pick_congr _ _ fun j _ => ih _ _ _ _ (by rw [List.map_drop, List.map_drop, h])

end Moclo
