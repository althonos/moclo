import Moclo.Proofs.Priority
/-! `DNARegex.search`: the first start of the range at which the anchored matcher succeeds on the text there;
hence leftmost start, one-turn bound, shape of the recorded marks. -/
namespace Moclo

/-- the text matched against at start `i` -/
def textAt (w : Word) (circular : Bool) (i : Nat) : Word :=
  ((if circular then w ++ w else w).drop i).take w.length

/-- the pattern fits (for some run lengths) at start `i` -/
def FitsAt (p : Pat) (w : Word) (circular : Bool) (i : Nat) : Prop := ∃ n, Fits p (textAt w circular i) n

def searchHi (w : Word) : Option Nat → Nat
  | none => w.length
  | some e => min w.length e

theorem searchHi_le (w : Word) (ep : Option Nat) : searchHi w ep ≤ w.length := by
  cases ep with
  | none => exact Nat.le_refl _
  | some e => exact Nat.min_le_left _ _

theorem textAt_length_le (w : Word) (c : Bool) (i : Nat) : (textAt w c i).length ≤ w.length := by
  unfold textAt; simp only [List.length_take]; omega

theorem textAt_linear_length (w : Word) (i : Nat) : (textAt w false i).length = w.length - i := by
  unfold textAt; simp [List.length_take, List.length_drop]

theorem relMatch_eq_some_iff {p : Pat} {xs : Word} {rel : List Nat} :
    relMatch p xs = some rel ↔ ∃ ms e, Best p xs 0 ms e ∧ rel.reverse = ms ++ [e] := by
  unfold relMatch
  simp [matchToks_eq_some_iff, List.reverse_eq_iff]

theorem relMatch_eq_none_iff {p : Pat} {xs : Word} : relMatch p xs = none ↔ ∀ ms e, ¬ Run p xs 0 ms e :=
  matchToks_eq_none_iff

theorem relMatch_run {p : Pat} {xs : Word} {rel : List Nat} (h : relMatch p xs = some rel) :
    ∃ ms e, Run p xs 0 ms e ∧ rel.reverse = ms ++ [e] :=
  let ⟨ms, e, hb, hr⟩ := relMatch_eq_some_iff.mp h; ⟨ms, e, hb.toRun, hr⟩

theorem relMatch_isSome_of_run {p : Pat} {xs : Word} {ms : List Nat} {e : Nat} (h : Run p xs 0 ms e) :
    ∃ rel, relMatch p xs = some rel :=
  Option.ne_none_iff_exists'.mp fun hn => relMatch_eq_none_iff.mp hn ms e h

theorem relMatch_marks {p : Pat} {xs : Word} {rel : List Nat} (h : relMatch p xs = some rel) :
    rel.reverse.length = nmarks p + 1 ∧ rel.reverse.Pairwise (· ≤ ·) ∧ ∀ x ∈ rel.reverse, x ≤ xs.length := by
  obtain ⟨ms, e, hr, hrev⟩ := relMatch_run h
  rw [hrev]
  exact ⟨by simp [hr.length_ms], hr.sorted, fun x hx => Nat.zero_add xs.length ▸ hr.marks_le x hx⟩

theorem relMatch_isSome_iff (p : Pat) (xs : Word) : (relMatch p xs).isSome ↔ ∃ n, Fits p xs n :=
  matchToks_isSome_iff p xs 0 []

theorem relMatch_none_iff (p : Pat) (xs : Word) : relMatch p xs = none ↔ ¬ ∃ n, Fits p xs n := by
  rw [← relMatch_isSome_iff]; cases relMatch p xs <;> simp

theorem search_eq (p : Pat) (w : Word) (c : Bool) (pos : Nat) (ep : Option Nat) :
    search p w c pos ep =
      firstUp (fun i => (relMatch p (textAt w c i)).map fun rel => ⟨i :: rel.reverse.map (· + i)⟩)
        pos (searchHi w ep - pos) := by
  unfold search
  rw [← firstUp_map]
  have : ∀ i, (matchToks p (textAt w c i) i [i]).map (fun r => (⟨r.reverse⟩ : Match)) =
      (relMatch p (textAt w c i)).map fun rel => ⟨i :: rel.reverse.map (· + i)⟩ := fun i => by
    rw [matchToks_shift]; simp [Function.comp_def, List.map_reverse]
  cases ep <;> exact firstUp_congr _ _ fun i _ _ => this i

theorem search_eq_some_iff {p : Pat} {w : Word} {c : Bool} {pos : Nat} {ep : Option Nat} {m : Match} :
    search p w c pos ep = some m ↔
      ∃ i rel, pos ≤ i ∧ i < searchHi w ep ∧ relMatch p (textAt w c i) = some rel ∧
        m = ⟨i :: rel.reverse.map (· + i)⟩ ∧ ∀ j, pos ≤ j → j < i → relMatch p (textAt w c j) = none := by
  rw [search_eq, firstUp_eq_some_iff]
  simp only [Option.map_eq_some_iff, Option.map_eq_none_iff]
  constructor
  · rintro ⟨i, h1, h2, ⟨rel, hrel, rfl⟩, h4⟩; exact ⟨i, rel, h1, by omega, hrel, rfl, h4⟩
  · rintro ⟨i, rel, h1, h2, hrel, rfl, h4⟩; exact ⟨i, h1, by omega, ⟨rel, hrel, rfl⟩, h4⟩

theorem search_eq_none_iff {p : Pat} {w : Word} {c : Bool} {pos : Nat} {ep : Option Nat} :
    search p w c pos ep = none ↔ ∀ j, pos ≤ j → j < searchHi w ep → relMatch p (textAt w c j) = none := by
  rw [search_eq, firstUp_eq_none_iff]
  simp only [Option.map_eq_none_iff]
  exact ⟨fun h j a b => h j a (by omega), fun h j a b => h j a (by omega)⟩

/-- **leftmost**: the reported start is in range, the pattern fits there, and at no earlier start of
the range -/
theorem search_leftmost {p : Pat} {w : Word} {c : Bool} {pos : Nat} {ep : Option Nat} {m : Match}
    (h : search p w c pos ep = some m) :
    pos ≤ m.start ∧ m.start < searchHi w ep ∧ FitsAt p w c m.start ∧
      ∀ j, pos ≤ j → j < m.start → ¬ FitsAt p w c j := by
  obtain ⟨i, rel, h1, h2, h3, rfl, h5⟩ := search_eq_some_iff.mp h
  show pos ≤ i ∧ i < _ ∧ FitsAt p w c i ∧ ∀ j, pos ≤ j → j < i → ¬ FitsAt p w c j
  exact ⟨h1, h2, (relMatch_isSome_iff _ _).mp (by rw [h3]; rfl),
    fun j a b => (relMatch_none_iff _ _).mp (h5 j a b)⟩

/-- no match is reported exactly when the pattern fits at no start of the range -/
theorem search_none_iff {p : Pat} {w : Word} {c : Bool} {pos : Nat} {ep : Option Nat} :
    search p w c pos ep = none ↔ ∀ j, pos ≤ j → j < searchHi w ep → ¬ FitsAt p w c j := by
  simp only [search_eq_none_iff, relMatch_none_iff, FitsAt]

/-- **one turn**: a match never covers more than one full turn; on a linear target it never runs
past the end -/
theorem search_one_turn {p : Pat} {w : Word} {c : Bool} {pos : Nat} {ep : Option Nat} {m : Match}
    (h : search p w c pos ep = some m) :
    m.start ≤ m.stop ∧ m.stop - m.start ≤ w.length ∧ (c = false → m.stop ≤ w.length) := by
  obtain ⟨i, rel, _, h2, h3, rfl, _⟩ := search_eq_some_iff.mp h
  obtain ⟨ms, e, hr, hrev⟩ := relMatch_run h3
  have hstop : (i :: rel.reverse.map (· + i)).getLastD 0 = e + i := by
    rw [hrev, List.map_append, List.getLastD_cons]; exact List.getLastD_concat ..
  have he := hr.bounds.2.1
  have hl := textAt_length_le w c i
  show i ≤ _ ∧ _ - i ≤ _ ∧ _
  rw [Match.stop, hstop]
  refine ⟨Nat.le_add_left _ _, by omega, ?_⟩
  rintro rfl
  rw [textAt_linear_length] at he
  have := searchHi_le w ep
  omega

end Moclo
