import Moclo.Proofs.Role
/-! Inputs that play the same role: same position in the overhang graph, same retained fragment.  The outcome
of an assembly depends on its inputs only through these. -/
namespace Moclo

/-- `e'` plays the role of `e`: same object position, same overhang keys (or the same rejection), same
fault flag, citations well formed alike, same retained fragment -/
structure SameRole (e e' : Ent) : Prop where
  oid : e'.oid = e.oid
  gmod : e'.gmod = e.gmod
  faulty : e'.faulty = e.faulty
  deref : (derefRec e'.rcd).isSome = (derefRec e.rcd).isSome
  frag : e'.fragment = e.fragment

theorem SameRole.refl (e : Ent) : SameRole e e := ⟨rfl, rfl, rfl, rfl, rfl⟩

theorem SameRole.symm {e e' : Ent} (h : SameRole e e') : SameRole e' e :=
  ⟨h.oid.symm, h.gmod.symm, h.faulty.symm, h.deref.symm, h.frag.symm⟩

/-- outcomes that agree: the same error, or products with the same sequence and the same unused modules -/
def OutcomeSame : Except Err Product → Except Err Product → Prop
  | .error e, .error e' => e = e'
  | .ok p, .ok p' => p'.rcd.seq = p.rcd.seq ∧ p'.unused = p.unused
  | _, _ => False

/-- what two extractions have in common -/
def TargetSame : Except Err Rec → Except Err Rec → Prop
  | .error e, .error e' => e = e'
  | .ok t, .ok t' => t'.seq = t.seq
  | _, _ => False

/-- dereferenced inputs playing the same role -/
structure DSame (d d' : Ent) : Prop where
  oid : d'.oid = d.oid
  faulty : d'.faulty = d.faulty
  target : TargetSame (d.spec.target d.rcd) (d'.spec.target d'.rcd)

theorem outcomeSame_iff {x y : Except Err Product} :
    OutcomeSame x y ↔ Except.Rel (fun p p' => p'.rcd.seq = p.rcd.seq ∧ p'.unused = p.unused) x y := by
  cases x <;> cases y <;> exact Iff.rfl

/-- as far as the sequence goes, an extraction is determined by the fault flag, the overhang pair (or the
rejection) and the fragment -/
theorem extract_map_seq (e : Ent) :
    e.extract.map (·.seq) = if e.faulty then .error .injected else e.gmod.map fun _ => e.fragment := by
  unfold Ent.extract Ent.gmod Ent.fragment fragmentOf ClassSpec.target
  cases e.faulty with
  | true => rfl
  | false =>
    cases e.spec.matchSeq e.rcd.seq with
    | error x => rfl
    | ok m => simp [Except.map, bind, Except.bind, pure, Except.pure, targetOf_seq]

theorem SameRole.roleRel {e e' : Ent} (h : SameRole e e') : RoleRel (fun t t' => t'.seq = t.seq) e e' := by
  refine ⟨h.gmod, Option.rel_of_isSome_eq (by simpa only [deref_isSome] using h.deref) fun d d' hd hd' => ?_⟩
  rw [deref_eq_some] at hd hd'
  refine ⟨by rw [hd'.1, hd.1, h.oid], Except.rel_map_eq.mpr ?_⟩
  rw [extract_map_seq, extract_map_seq, hd'.2.2.1, hd'.gmod, hd'.fragment, hd.2.2.1, hd.gmod, hd.fragment,
    h.faulty, h.gmod, h.frag]

/-- **the whole outcome depends on the inputs only through their roles**: the same error, or products with
the same sequence and the same unused modules -/
theorem assemble_sameRole_outcome {v v' : Ent} {mods mods' : List Ent} (pid pname : Nat)
    (hv : SameRole v v') (hm : List.Forall₂ SameRole mods mods') :
    OutcomeSame (assemble v mods pid pname).1 (assemble v' mods' pid pname).1 :=
  outcomeSame_iff.mpr <| assemble_rel (R := fun t t' => t'.seq = t.seq) rfl
    (fun _ _ _ _ ha ht => by simp only [Rec.append_seq, ha, ht]) (fun _ _ _ h => ⟨h, rfl⟩)
    hv.roleRel (hm.imp fun _ _ h => h.roleRel)

/-- **the outcome depends on the inputs only through their roles**: if an assembly succeeds, so does the
assembly of any inputs playing the same roles, with literally the same product sequence and the same unused
modules -/
theorem assemble_sameRole {v v' : Ent} {mods mods' : List Ent} {pid pname : Nat} {p : Product} {after : List Rec}
    (h : assemble v mods pid pname = (.ok p, after)) (hv : SameRole v v') (hm : List.Forall₂ SameRole mods mods') :
    ∃ p', (assemble v' mods' pid pname).1 = .ok p' ∧ p'.rcd.seq = p.rcd.seq ∧ p'.unused = p.unused := by
  have := outcomeSame_iff.mp (assemble_sameRole_outcome pid pname hv hm)
  rw [h] at this
  exact this.ok_left

/-- the same entity up to the identifier of its record -/
def SameButName (e e' : Ent) : Prop :=
  e'.oid = e.oid ∧ e'.spec = e.spec ∧ e'.faulty = e.faulty ∧ e'.rcd.seq = e.rcd.seq ∧
  e'.rcd.feats = e.rcd.feats ∧ e'.rcd.refs = e.rcd.refs

theorem SameButName.gmod {e e' : Ent} (h : SameButName e e') : e'.gmod = e.gmod := by
  obtain ⟨h1, h2, _, h4, _, _⟩ := h
  unfold Ent.gmod
  rw [h1, h2, h4]

theorem SameButName.fragment {e e' : Ent} (h : SameButName e e') : e'.fragment = e.fragment := by
  obtain ⟨_, h2, _, h4, _, _⟩ := h
  unfold Ent.fragment
  rw [h2, h4]

theorem SameButName.deref_isSome {e e' : Ent} (h : SameButName e e') :
    (derefRec e'.rcd).isSome = (derefRec e.rcd).isSome := by
  rw [Bool.eq_iff_iff, derefRec_isSome_iff, derefRec_isSome_iff, h.2.2.2.2.1, h.2.2.2.2.2]

theorem SameButName.sameRole {e e' : Ent} (h : SameButName e e') : SameRole e e' :=
  ⟨h.1, h.gmod, h.2.2.1, h.deref_isSome, h.fragment⟩

end Moclo
