import Moclo.Proofs.GraphRc
import Moclo.Proofs.Rc
import Moclo.Proofs.Case
/-! Strand symmetry of a whole assembly.  Inputs enter through what they report: a module as groups `(a, b, c)`, its
twin as `(rc c, rc b, rc a)` (`ModRc`, `VecRc`).  The graph side is `gAssemble_rc`, the word side `rc_product_rot`
(the two products are rotations of each other's reverse complement); `assemble_rc_twins` puts them together through
`assemble_ok` / `assemble_succeeds`. -/
namespace Moclo

/-- consecutive triples `(a, b, c)` are linked: `av ≈ a₁`, `cᵢ ≈ aᵢ₊₁`, `c_k ≈ cv` (up to letter case) -/
def LinkedNt : Word → List (Word × Word × Word) → Word → Prop
  | av, [], cv => NtEq av cv
  | av, t :: ts, cv => NtEq av t.1 ∧ LinkedNt t.2.2 ts cv

theorem rc_flatten_link (T : List (Word × Word × Word)) (av cv : Word) (h : LinkedNt av T cv) :
    NtEq ((T.reverse.map (fun t => Moclo.rc t.2.2 ++ Moclo.rc t.2.1)).flatten ++ Moclo.rc av)
         (Moclo.rc cv ++ Moclo.rc (T.map (fun t => t.1 ++ t.2.1)).flatten) := by
  induction T generalizing av with
  | nil => simpa [Moclo.rc] using NtEq.rc h
  | cons t ts ih =>
    obtain ⟨h1, h2⟩ := h
    simp only [List.reverse_cons, List.map_append, List.map_cons, List.map_nil, List.flatten_append,
      List.flatten_cons, List.flatten_nil, List.append_nil, List.append_assoc]
    rw [rc_append, rc_append]
    simpa only [List.append_assoc] using (ih t.2.2 h2).append ((NtEq.refl (Moclo.rc t.2.1)).append h1.rc)

/-- **the product of the other strand is a rotation of the reverse complement of the product**, as a
statement about words: chain fragments `aᵢ·bᵢ` then the vector's `cv·B` on one strand; `rc cᵢ·rc bᵢ` in
reverse chain order then `rc av·rc B` on the other -/
theorem rc_product_rot (T : List (Word × Word × Word)) (av cv B : Word) (h : LinkedNt av T cv) :
    ∃ r, NtEq ((T.reverse.map (fun t => Moclo.rc t.2.2 ++ Moclo.rc t.2.1)).flatten ++ (Moclo.rc av ++ Moclo.rc B))
      ((Moclo.rc ((T.map (fun t => t.1 ++ t.2.1)).flatten ++ (cv ++ B))).rotate r) := by
  refine ⟨(Moclo.rc B).length, ?_⟩
  rw [rc_append, rc_append, List.append_assoc, List.rotate_append_length_eq]
  have key := (rc_flatten_link T av cv h).append (NtEq.refl (Moclo.rc B))
  simpa only [List.append_assoc] using key

/-- what a module and its reverse-complemented twin contribute: groups `a`, `b`, `c` -/
structure ModRc (e e' : Ent) (a b c : Word) : Prop where
  gmod : e.gmod = .ok ⟨upperW a, upperW c, e.oid⟩
  frag : e.fragment = a ++ b
  gmod' : e'.gmod = .ok ⟨upperW (Moclo.rc c), upperW (Moclo.rc a), e.oid⟩
  frag' : e'.fragment = Moclo.rc c ++ Moclo.rc b
  oid' : e'.oid = e.oid

/-- the same for a vector: overhang groups `a` (downstream), `c` (upstream), backbone `B` -/
structure VecRc (v v' : Ent) (a c B : Word) : Prop where
  gmod : v.gmod = .ok ⟨upperW c, upperW a, v.oid⟩
  frag : v.fragment = c ++ B
  gmod' : v'.gmod = .ok ⟨upperW (Moclo.rc a), upperW (Moclo.rc c), v.oid⟩
  frag' : v'.fragment = Moclo.rc a ++ Moclo.rc B

theorem ModRc.gmod_flip {e e' : Ent} {a b c : Word} (h : ModRc e e' a b c) :
    e'.gmod = e.gmod.map (GMod.flip Moclo.rc) := by
  rw [h.gmod, h.gmod', upperW_rc, upperW_rc]; rfl

/-- the modules along a path as triples `(a, b, c)` of groups: `a·b` on one strand, `rc c·rc b` on the other -/
theorem chain_triples {mods mods' : List Ent} (hn : (mods.map (·.oid)).Nodup) (hn' : (mods'.map (·.oid)).Nodup)
    {chain : List (GMod Word)} {s t : Word} (hp : IsPath s chain t)
    (hall : ∀ x ∈ chain, ∃ e ∈ mods, ∃ e' ∈ mods', (∃ a b c, ModRc e e' a b c) ∧ e.gmod = .ok x) :
    ∃ T : List (Word × Word × Word),
      chain.map (fun g => fragOfOid mods g.oid) = T.map (fun t => t.1 ++ t.2.1) ∧
      chain.map (fun g => fragOfOid mods' g.oid) = T.map (fun t => Moclo.rc t.2.2 ++ Moclo.rc t.2.1) ∧
      ∀ av cv, upperW av = s → upperW cv = t → LinkedNt av T cv := by
  induction chain generalizing s with
  | nil => exact ⟨[], rfl, rfl, fun av cv h1 h2 => ntEq_of_upperW_eq (h1.trans (hp.trans h2.symm))⟩
  | cons x xs ih =>
    obtain ⟨hs, hp'⟩ := hp
    obtain ⟨e, he, e', he', ⟨a, b, c, hm⟩, hg⟩ := hall x (by simp)
    obtain rfl : x = ⟨upperW a, upperW c, e.oid⟩ := Except.ok.inj (hg.symm.trans hm.gmod)
    obtain ⟨T, h1, h2, h3⟩ := ih hp' fun y hy => hall y (List.mem_cons_of_mem _ hy)
    refine ⟨(a, b, c) :: T, ?_, ?_, fun av cv hav hcv => ⟨ntEq_of_upperW_eq (hav.trans hs.symm), h3 c cv rfl hcv⟩⟩
    · rw [List.map_cons, List.map_cons, h1, fragOfOid_of_mem hn he, hm.frag]
    · rw [List.map_cons, List.map_cons, h2, ← hm.oid', fragOfOid_of_mem hn' he', hm.frag']

/-- **assembling the other strand**: if an assembly succeeds and uses every supplied module, and no two
downstream overhangs are reverse complements of each other, then assembling the twins of the inputs (records
that report the mirror image: `ModRc`, `VecRc`) succeeds as well, and its product is, up to letter case and
rotation, the reverse complement of the original product -/
theorem assemble_rc_twins {v v' : Ent} {mods mods' : List Ent} {pid pname : Nat} {p : Product} {after : List Rec}
    (h : assemble v mods pid pname = (.ok p, after)) (hun : p.unused = [])
    (hoid : (mods.map (·.oid)).Nodup)
    {av cv B : Word} (hv : VecRc v v' av cv B)
    (hm : List.Forall₂ (fun e e' => ∃ a b c, ModRc e e' a b c) mods mods')
    (hd : ∀ e ∈ mods', (derefRec e.rcd).isSome) (hdv : (derefRec v'.rcd).isSome)
    (hf : ∀ e ∈ mods', e.faulty = false) (hvf : v'.faulty = false)
    (hJ : ∀ e ∈ mods, ∀ e2 ∈ mods, ∀ g g2, e.gmod = .ok g → e2.gmod = .ok g2 → g2.stop ≠ Moclo.rc g.stop) :
    ∃ p', (assemble v' mods' pid pname).1 = .ok p' ∧
      ∃ r, NtEq p'.rcd.seq ((Moclo.rc p.rcd.seq).rotate r) := by
  obtain ⟨gv, gs, map, chain, rest, h1, h2, h3, h4, h5, h6, h7, h8, _⟩ := assemble_ok h
  obtain rfl : rest = [] := List.map_eq_nil_iff.mp (h8.symm.trans hun)
  obtain rfl : gv = ⟨upperW cv, upperW av, v.oid⟩ := Except.ok.inj (h1.symm.trans hv.gmod)
  have hF := (evalPrefix_ok_iff mods gs).mp h3
  have hoid' : (mods'.map (·.oid)).Nodup := by
    rw [← (hm.imp fun _ _ ⟨_, _, _, hx⟩ => hx.oid'.symm).map_eq]
    exact hoid
  have hid := sameObj_gmods hF hoid
  have htw : ∀ x ∈ gs, ∃ e ∈ mods, ∃ e' ∈ mods', (∃ a b c, ModRc e e' a b c) ∧ e.gmod = .ok x := fun x hx => by
    obtain ⟨e, he, hg⟩ := hF.exists_of_mem_right x hx
    obtain ⟨e', he', hr⟩ := hm.flip.exists_of_mem_right e he
    exact ⟨e, he, e', he', hr, hg⟩
  have hga := gAssemble_ok_iff.mpr ⟨h2, map, h4, h5, h6⟩
  obtain ⟨hne', map', hb', hc', hw'⟩ := gAssemble_ok_iff.mp <| gAssemble_rc (rc := Moclo.rc) rc_rc hid hga
    fun m hm1 m' hm2 => by
      obtain ⟨e, he, _, _, _, hg⟩ := htw m hm1
      obtain ⟨e2, he2, _, _, _, hg2⟩ := htw m' hm2
      exact hJ e he e2 he2 m m' hg hg2
  have h3' : evalPrefix mods' = (gs.map (GMod.flip Moclo.rc), none) := by
    rw [evalPrefix_map (hm.imp fun _ _ ⟨_, _, _, hx⟩ => hx.gmod_flip), h3]
  simp only [← upperW_rc] at hne' hw'
  obtain ⟨p', hp', k7, _⟩ := assemble_succeeds pid pname hv.gmod' hne' h3' hb' hc' hw' hd hdv
    (fun _ _ e he => hf e (List.mem_of_find?_eq_some he)) hvf
  obtain ⟨_, _, _, ⟨hpath, hin, _, _⟩, _, _⟩ := C03.ok_sound hid hga
  obtain ⟨T, t1, t2, t3⟩ := chain_triples hoid hoid' hpath fun x hx => htw x (hin x hx)
  obtain ⟨r, hr⟩ := rc_product_rot T av cv B (t3 av cv rfl rfl)
  refine ⟨p', hp', r, ?_⟩
  -- flipping a module keeps its object, so the flipped chain finds the twins of the chain
  have t2' : ((chain.reverse.map (GMod.flip Moclo.rc)).map fun g => fragOfOid mods' g.oid) =
      T.reverse.map fun t => Moclo.rc t.2.2 ++ Moclo.rc t.2.1 := by
    rw [List.map_reverse (l := T), ← t2, ← List.map_reverse, List.map_map]; rfl
  rw [k7, h7, hv.frag, hv.frag', t1, t2']
  exact hr

end Moclo
