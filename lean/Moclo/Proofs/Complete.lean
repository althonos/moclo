import Moclo.Proofs.Assembly
import Moclo.Props.C03
/-! Completeness of `assemble`: `assemble_succeeds` under the graph conditions of C03 (`C03.ok_complete`). -/
namespace Moclo

/-- **completeness**: distinct module objects, all accepted by their classes (`gmod`), whose overhang keys
form a graph with the chain `chain` from the vector's downstream to its upstream overhang (no two modules
with the same start, no reverse-complementary starts), citations well formed, no injected fault: `assemble`
returns a product, and its sequence is the concatenation of the chain's fragments followed by the vector's -/
theorem assemble_complete {v : Ent} {mods : List Ent} (pid pname : Nat) {gv : GMod Word}
    {gs chain : List (GMod Word)}
    (h1 : v.gmod = .ok gv) (hF : List.Forall₂ (fun e g => e.gmod = .ok g) mods gs)
    (hoid : (mods.map (·.oid)).Nodup) (hne : gv.start ≠ gv.stop)
    (hsf : StartFree gs) (hrc : C03.NoRc Moclo.rc gs) (hc : C03.Chain gs gv.stop chain gv.start)
    (hd : ∀ e ∈ mods, (derefRec e.rcd).isSome) (hdv : (derefRec v.rcd).isSome)
    (hf : ∀ e ∈ mods, e.faulty = false) (hvf : v.faulty = false) :
    ∃ p, (assemble v mods pid pname).1 = .ok p ∧
      p.rcd.seq = (chain.map (fun g => fragOfOid mods g.oid)).flatten ++ v.fragment ∧
      (∀ o, o ∈ p.unused ↔ ∃ g ∈ gs, g ∉ chain ∧ g.oid = o) := by
  have hid := sameObj_gmods hF hoid
  obtain ⟨rest, hga⟩ := C03.ok_complete (rc := Moclo.rc) hid hne hsf hrc hc
  obtain ⟨_, map, hb, hcl, hw⟩ := gAssemble_ok_iff.mp hga
  obtain ⟨p, hp, k7, k8⟩ := assemble_succeeds pid pname h1 hne ((evalPrefix_ok_iff _ _).mpr hF) hb hcl hw hd hdv
    (fun _ _ e he => hf e (List.mem_of_find?_eq_some he)) hvf
  obtain ⟨_, _, _, _, _, hrest⟩ := C03.ok_sound hid hga
  refine ⟨p, hp, k7, fun o => ?_⟩
  simp only [k8, List.mem_map, hrest, and_assoc]

end Moclo
