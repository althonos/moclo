import Moclo.Proofs.Narrow
import Moclo.Proofs.Rc
/-! The generic module and vector structures as `head · N* · tail`: the documented plasmid shapes are exact
fits, and the marks of any fit are determined by where it ends (a module's groups sit right after `site N^off` and right
before `N^off rc(site)`, a vector's one letter inside either end).  Then the same structures, and the signature-typed ones, as three-group structures `pre (g1)(mid)(g3) suf`. -/
namespace Moclo

theorem letters_single_gopen : letters [Tok.gopen] = [] := rfl

def modHead (g : Geom) : Pat :=
  lits g.site ++ nRun g.off ++ [.gopen] ++ nRun g.k ++ [.gclose, .gopen, .cls .N]
def modTail (g : Geom) : Pat :=
  [.cls .N, .gclose, .gopen] ++ nRun g.k ++ [.gclose] ++ nRun g.off ++ lits (rcNt g.site)

theorem moduleStructure_eq (g : Geom) : moduleStructure g = modHead g ++ .star .N true :: modTail g := by
  simp [moduleStructure, modHead, modTail, List.append_assoc]

theorem letters_modHead (g : Geom) : letters (modHead g) = g.site ++ List.replicate (g.off + g.k + 1) .N := by
  simp [modHead, letters, List.replicate_add, -List.replicate_append_replicate]

theorem letters_modTail (g : Geom) : letters (modTail g) = List.replicate (1 + g.k + g.off) .N ++ rcNt g.site := by
  simp [modTail, letters, List.replicate_add, -List.replicate_append_replicate]

/-- **the documented module shape is accepted by the generic module structure**: a word
`S · A · M · B · S'` where `S` is recognised as the site, `S'` as its reverse complement, and `A`, `M`, `B`
consist of letters the wildcard accepts with `|A| = |B| = off + k + 1`, is an exact fit -/
theorem module_fits (g : Geom) (S A M B S' : Word)
    (hS : matchesAt g.site S) (hSl : S.length = g.site.length)
    (hS' : matchesAt (rcNt g.site) S') (hS'l : S'.length = g.site.length)
    (hA : ∀ x ∈ A, clsMatch .N x = true) (hAl : A.length = g.off + g.k + 1)
    (hM : ∀ x ∈ M, clsMatch .N x = true)
    (hB : ∀ x ∈ B, clsMatch .N x = true) (hBl : B.length = 1 + g.k + g.off) :
    ∃ ms, Run (moduleStructure g) (S ++ A ++ M ++ B ++ S') 0 ms (S ++ A ++ M ++ B ++ S').length := by
  have := Run.of_head_tail (F1 := modHead g) (F2 := modTail g) (g := true) (X1 := S ++ A) (X2 := B ++ S') 0
    (by simp [modHead, starFree]) (by simp [modTail, starFree])
    (by rw [letters_modHead, ← hAl]; exact matchesAt_append hS hSl (matchesAt_replicate hA))
    (by simp [← letters_length, letters_modHead, hSl, hAl]) hM
    (by rw [letters_modTail, ← hBl]; exact matchesAt_append (matchesAt_replicate hB) (by simp) hS')
    (by simp [← letters_length, letters_modTail, rcNt_length, hS'l, hBl])
  exact ⟨_, by simpa [moduleStructure_eq, List.append_assoc] using this⟩

theorem module_fits_mid (g : Geom) (S Mid S' : Word)
    (hS : matchesAt g.site S) (hSl : S.length = g.site.length)
    (hS' : matchesAt (rcNt g.site) S') (hS'l : S'.length = g.site.length)
    (hM : ∀ x ∈ Mid, clsMatch .N x = true) (hMl : 2 * (g.off + g.k + 1) ≤ Mid.length) :
    ∃ ms, Run (moduleStructure g) (S ++ Mid ++ S') 0 ms (S ++ Mid ++ S').length := by
  obtain ⟨ms, h⟩ := module_fits g S (Mid.take (g.off + g.k + 1))
    ((Mid.drop (g.off + g.k + 1)).take (Mid.length - 2 * (g.off + g.k + 1)))
    ((Mid.drop (g.off + g.k + 1)).drop (Mid.length - 2 * (g.off + g.k + 1))) S' hS hSl hS' hS'l
    (fun x hx => hM x (List.mem_of_mem_take hx)) (List.length_take_of_le (by omega))
    (fun x hx => hM x (List.mem_of_mem_drop (List.mem_of_mem_take hx)))
    (fun x hx => hM x (List.mem_of_mem_drop (List.mem_of_mem_drop hx))) (by simp only [List.length_drop]; omega)
  simp only [List.append_assoc, List.take_append_drop] at h
  exact ⟨ms, by simpa only [List.append_assoc] using h⟩

def vecHead (g : Geom) : Pat :=
  [.cls .N, .gopen] ++ nRun g.k ++ [.gclose, .gopen] ++ nRun g.off ++ lits (rcNt g.site)
def vecTail (g : Geom) : Pat :=
  lits g.site ++ nRun g.off ++ [.gclose, .gopen] ++ nRun g.k ++ [.gclose, .cls .N]

theorem vectorStructure_eq (g : Geom) : vectorStructure g = vecHead g ++ .star .N true :: vecTail g := by
  simp [vectorStructure, vecHead, vecTail, List.append_assoc]

theorem letters_vecHead (g : Geom) : letters (vecHead g) = List.replicate (1 + g.k + g.off) .N ++ rcNt g.site := by
  simp [vecHead, letters, List.replicate_add, -List.replicate_append_replicate]

theorem letters_vecTail (g : Geom) : letters (vecTail g) = g.site ++ List.replicate (g.off + g.k + 1) .N := by
  simp [vecTail, letters, List.replicate_add, -List.replicate_append_replicate]

theorem vector_fits (g : Geom) (A S' P S B : Word)
    (hS : matchesAt g.site S) (hSl : S.length = g.site.length)
    (hS' : matchesAt (rcNt g.site) S') (hS'l : S'.length = g.site.length)
    (hA : ∀ x ∈ A, clsMatch .N x = true) (hAl : A.length = 1 + g.k + g.off)
    (hP : ∀ x ∈ P, clsMatch .N x = true)
    (hB : ∀ x ∈ B, clsMatch .N x = true) (hBl : B.length = g.off + g.k + 1) :
    ∃ ms, Run (vectorStructure g) (A ++ S' ++ P ++ S ++ B) 0 ms (A ++ S' ++ P ++ S ++ B).length := by
  have := Run.of_head_tail (F1 := vecHead g) (F2 := vecTail g) (g := true) (X1 := A ++ S') (X2 := S ++ B) 0
    (by simp [vecHead, starFree]) (by simp [vecTail, starFree])
    (by rw [letters_vecHead, ← hAl]; exact matchesAt_append (matchesAt_replicate hA) (by simp) hS')
    (by simp [← letters_length, letters_vecHead, rcNt_length, hS'l, hAl]) hP
    (by rw [letters_vecTail, ← hBl]; exact matchesAt_append hS hSl (matchesAt_replicate hB))
    (by simp [← letters_length, letters_vecTail, hSl, hBl])
  exact ⟨_, by simpa [vectorStructure_eq, List.append_assoc] using this⟩

/-! The generic and the signature-typed structures as three-group structures `pre (g1)(mid)(g3) suf` that differ in
groups 1 and 3 only.  (The names live in `C05`, the property that compares the two.) -/
namespace C05

/-- the pieces around the overhang groups, shared by the generic and the signature-typed structure -/
def preOf : Kind → Geom → Pat
  | .module, g => lits g.site ++ nRun g.off
  | .vector, _ => [.cls .N]
def midOf : Kind → Geom → Pat
  | .module, _ => [.cls .N, .star .N true, .cls .N]
  | .vector, g => nRun g.off ++ lits (rcNt g.site) ++ [.star .N true] ++ lits g.site ++ nRun g.off
def sufOf : Kind → Geom → Pat
  | .module, g => nRun g.off ++ lits (rcNt g.site)
  | .vector, _ => [.cls .N]

theorem generic_eq (kind : Kind) (g : Geom) :
    genericStructure kind g = threeGroup (preOf kind g) (nRun g.k) (midOf kind g) (nRun g.k) (sufOf kind g) := by
  cases kind <;>
    simp only [genericStructure, moduleStructure, vectorStructure, threeGroup, preOf, midOf, sufOf, List.append_assoc] <;> rfl

/-- group 1 carries the upstream signature of a module part, the downstream one of a vector part -/
def sig1 : Kind → List Nt → List Nt → List Nt
  | .module, up, _ => up
  | .vector, _, down => down
def sig3 : Kind → List Nt → List Nt → List Nt
  | .module, _, down => down
  | .vector, up, _ => up

theorem part_eq (kind : Kind) (g : Geom) (up down : List Nt) :
    partStructure kind g up down =
      threeGroup (preOf kind g) (lits (sig1 kind up down)) (midOf kind g) (lits (sig3 kind up down)) (sufOf kind g) := by
  cases kind <;> simp only [partStructure, modulePartStructure, vectorPartStructure, threeGroup, preOf, midOf, sufOf,
    sig1, sig3, List.append_assoc] <;> rfl

theorem pieces_markless (kind : Kind) (g : Geom) :
    markless (preOf kind g) ∧ markless (midOf kind g) ∧ markless (sufOf kind g) := by
  have one : ∀ t : Tok, t.isMark = false → markless [t] := fun t ht => markless_of_all (by simp [ht])
  cases kind
  · exact ⟨markless_append (markless_lits _) (markless_nRun _),
      by intro t ht; simp [midOf] at ht; rcases ht with rfl | rfl | rfl <;> rfl,
      markless_append (markless_nRun _) (markless_lits _)⟩
  · refine ⟨one _ rfl, ?_, one _ rfl⟩
    exact markless_append (markless_append (markless_append (markless_append (markless_nRun _) (markless_lits _))
      (one _ rfl)) (markless_lits _)) (markless_nRun _)

end C05

theorem generic_run_marks (kind : Kind) (g : Geom) {xs : Word} {ms : List Nat} {e : Nat}
    (h : Run (genericStructure kind g) xs 0 ms e) :
    ms = [width (C05.preOf kind g), width (C05.preOf kind g) + g.k, width (C05.preOf kind g) + g.k,
      e - (width (C05.sufOf kind g) + g.k), e - (width (C05.sufOf kind g) + g.k), e - width (C05.sufOf kind g)] ∧
    width (C05.preOf kind g) + g.k + width (C05.midOf kind g) + g.k + width (C05.sufOf kind g) ≤ e := by
  obtain ⟨mp, mm, ms'⟩ := C05.pieces_markless kind g
  rw [C05.generic_eq] at h
  exact threeGroup_run_marks mp mm ms' (by cases kind <;> simp [C05.preOf, starFree])
    (by cases kind <;> simp [C05.sufOf, starFree]) (isFixed_nRun _) (isFixed_nRun _) h

/-- the marks of *any* run of the generic module structure that ends at `e`: the groups sit right after
`site N^off` and right before `N^off rc(site)` -/
theorem module_run_marks (g : Geom) {xs : Word} {ms : List Nat} {e : Nat}
    (h : Run (moduleStructure g) xs 0 ms e) :
    ms = [g.site.length + g.off, g.site.length + g.off + g.k, g.site.length + g.off + g.k,
          e - (g.site.length + g.off + g.k), e - (g.site.length + g.off + g.k), e - (g.site.length + g.off)] ∧
    g.site.length + g.off + g.k + 2 + g.k + g.off + g.site.length ≤ e := by
  have := generic_run_marks .module g h
  simp only [C05.preOf, C05.midOf, C05.sufOf, width_append, width_lits, width_nRun, width, rcNt_length] at this
  obtain ⟨rfl, hle⟩ := this
  exact ⟨by rw [Nat.add_comm g.off g.site.length], by omega⟩

/-- a vector's groups sit one letter inside either end -/
theorem vector_run_marks (g : Geom) {xs : Word} {ms : List Nat} {e : Nat}
    (h : Run (vectorStructure g) xs 0 ms e) :
    ms = [1, 1 + g.k, 1 + g.k, e - (g.k + 1), e - (g.k + 1), e - 1] ∧
    1 + g.k + (g.off + g.site.length + g.site.length + g.off) + g.k + 1 ≤ e := by
  have := generic_run_marks .vector g h
  simp only [C05.preOf, C05.midOf, C05.sufOf, width_append, width_lits, width_nRun, width, rcNt_length] at this
  obtain ⟨rfl, hle⟩ := this
  exact ⟨by rw [Nat.add_comm 1 g.k], by omega⟩

end Moclo
