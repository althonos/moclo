import Moclo.Model.Entity
import Moclo.Proofs.Search
import Moclo.Proofs.Feature
/-! The *view* of a structured record: the one-turn window the structure matched in and the recorded
marks relative to its start.  The search on a circular record looks at the record only through its windows,
and everything a class reports is a function of the view.  Here: `slice` and its algebra; the retained fragment as a
word (`targetWord`, `fragmentOf`); `UniqueStart` and the search on a rotated record; groups and target read off the view
(`rspan`, `vgroup`, `vTarget`; `group_view`, `target_view`). -/
namespace Moclo

/-- the letters `[a, b)` of the window -/
def slice (text : Word) (a b : Nat) : Word := (text.drop a).take (b - a)

theorem slice_zero (A : Word) (e : Nat) : slice A 0 e = A.take e := by simp [slice]

theorem slice_length (t : Word) (a b : Nat) (hab : a ≤ b) (hb : b ≤ t.length) : (slice t a b).length = b - a := by
  rw [slice, List.length_take, List.length_drop]; omega

theorem slice_join (A : Word) (a b c : Nat) (hab : a ≤ b) (hbc : b ≤ c) : slice A a b ++ slice A b c = slice A a c := by
  unfold slice
  rw [show c - a = (b - a) + (c - b) by omega, List.take_add, List.drop_drop, show a + (b - a) = b by omega]

theorem slice_take (text : Word) (e a b : Nat) (hb : b ≤ e) : slice (text.take e) a b = slice text a b := by
  unfold slice
  rw [List.drop_take, List.take_take, Nat.min_eq_left (by omega)]

theorem slice_drop (A : Word) (i a b : Nat) : slice (A.drop i) a b = slice A (i + a) (i + b) := by
  rw [slice, slice, List.drop_drop, Nat.add_sub_add_left]

theorem slice_append_left (X Y : Word) (a b : Nat) (hb : b ≤ X.length) : slice (X ++ Y) a b = slice X a b := by
  rw [← slice_take (X ++ Y) X.length a b hb, List.take_left']; rfl

theorem slice_append_drop (A : Word) {a b : Nat} (hab : a ≤ b) : slice A a b ++ A.drop b = A.drop a := by
  rw [slice, show b = a + (b - a) by omega, ← List.drop_drop, Nat.add_sub_cancel_left, List.take_append_drop]

theorem slice_mid (A B C : Word) : slice (A ++ B ++ C) A.length (A ++ B).length = B := by
  simp [slice, List.append_assoc]

/-- the retained fragment as a word: `(w << start)[: end-start]` for a module, `[end-start :]` for a vector -/
def targetWord (c : ClassSpec) (w : Word) (m : Match) : Word :=
  match c.kind with
  | .module => pySlice (rotlI w (m.span 1).1) 0 ((m.span 2).2 - (m.span 1).1)
  | .vector => pySlice (rotlI w (m.span 1).1) ((m.span 2).2 - (m.span 1).1) w.length

@[simp] theorem addSource_seq (rid : Nat) (r : Rec) : (addSource rid r).seq = r.seq := rfl

theorem targetOf_seq (c : ClassSpec) (r : Rec) (m : Match) : (c.targetOf r m).seq = targetWord c r.seq m := by
  unfold ClassSpec.targetOf targetWord
  cases c.kind <;> simp [Rec.rotl_seq]

/-- the fragment a record contributes under a class (empty when the record is not valid for it) -/
def fragmentOf (c : ClassSpec) (w : Word) : Word :=
  match c.matchSeq w with
  | .ok m => targetWord c w m
  | .error _ => []

theorem textAt_circ (w : Word) (i : Nat) : textAt w true i = window w i := rfl

theorem search_circ_none {p : Pat} {w : Word} (h : ∀ j, j < w.length → relMatch p (window w j) = none) :
    search p w true = none :=
  search_eq_none_iff.mpr fun j _ hj => h j hj

/-- the record contains exactly one occurrence of the structure: there is exactly one start (below the
length) at which the pattern fits the one-turn window -/
def UniqueStart (p : Pat) (w : Word) : Prop :=
  ∃ i, i < w.length ∧ (relMatch p (window w i)).isSome ∧
    ∀ j, j < w.length → (relMatch p (window w j)).isSome → j = i

theorem search_of_unique {p : Pat} {w : Word} {i : Nat} {rel : List Nat} (hi : i < w.length)
    (h : relMatch p (window w i) = some rel)
    (hu : ∀ j, j < w.length → (relMatch p (window w j)).isSome → j = i) :
    search p w true = some ⟨i :: rel.reverse.map (· + i)⟩ :=
  search_eq_some_iff.mpr ⟨i, rel, Nat.zero_le _, hi, h, rfl, fun j _ hj =>
    Option.not_isSome_iff_eq_none.mp fun hs => Nat.ne_of_lt hj (hu j (Nat.lt_trans hj hi) hs)⟩

theorem search_rotr {p : Pat} {w : Word} (k : Nat) (hu : UniqueStart p w) :
    ∃ i rel, i < w.length ∧ relMatch p (window w i) = some rel ∧
      search p w true = some ⟨i :: rel.reverse.map (· + i)⟩ ∧
      search p (rotr w k) true =
        some ⟨(i + k) % w.length :: rel.reverse.map (· + (i + k) % w.length)⟩ ∧
      window (rotr w k) ((i + k) % w.length) = window w i := by
  obtain ⟨i, hi, hs, huniq⟩ := hu
  obtain ⟨rel, hrel⟩ := Option.isSome_iff_exists.mp hs
  have hwin := window_rotr w k i hi
  refine ⟨i, rel, hi, hrel, search_of_unique hi hrel huniq, ?_, hwin⟩
  refine search_of_unique (by rw [rotr_length]; exact Nat.mod_lt _ (by omega)) (hwin ▸ hrel) fun j hj hsj => ?_
  -- a start on the rotated record is where some start `i'` of the record went, and `i' = i`
  rw [rotr_length] at hj
  obtain ⟨i', hi', rfl⟩ := exists_add_mod_eq hj k
  rw [window_rotr w k i' hi'] at hsj
  rw [huniq i' hi' hsj]

theorem search_rotr_none {p : Pat} {w : Word} (k : Nat)
    (h : ∀ j, j < w.length → relMatch p (window w j) = none) : search p (rotr w k) true = none := by
  apply search_circ_none
  intro j hj
  rw [rotr_length] at hj
  obtain ⟨i, hi, rfl⟩ := exists_add_mod_eq hj k
  rw [window_rotr w k i hi]
  exact h i hi

/-- span of group `g` relative to the start of the match (`rs` = the relative marks in reading order) -/
def rspan (rs : List Nat) (g : Nat) : Nat × Nat :=
  if g = 0 then (0, rs.getLastD 0) else (rs.getD (2 * g - 2) 0, rs.getD (2 * g - 1) 0)

/-- text of group `g` read off the window -/
def vgroup (text : Word) (rs : List Nat) (g : Nat) : Word := slice text (rspan rs g).1 (rspan rs g).2

/-- group `g` exists in a match with relative marks `rs` -/
def HasGroup (rs : List Nat) (g : Nat) : Prop := g = 0 ∧ rs ≠ [] ∨ 1 ≤ g ∧ 2 * g - 1 < rs.length

theorem getD_map_add (rs : List Nat) (i j : Nat) (hj : j < rs.length) :
    (rs.map (· + i)).getD j 0 = rs.getD j 0 + i := by
  simp [List.getD, hj]

theorem span_of_marks (rs : List Nat) (i g : Nat) (hg : HasGroup rs g) :
    (⟨i :: rs.map (· + i)⟩ : Match).span g = ((rspan rs g).1 + i, (rspan rs g).2 + i) := by
  rcases hg with ⟨rfl, hne⟩ | ⟨h1, h2⟩
  · obtain ⟨a, l, rfl⟩ := List.exists_cons_of_ne_nil hne
    refine Prod.ext (Nat.zero_add i).symm ?_
    show (i :: (a + i) :: l.map (· + i)).getLastD 0 = (a :: l).getLastD 0 + i
    rw [List.getLastD_cons, List.getLastD_cons, List.getLastD_cons]; exact List.getLastD_map ..
  · obtain ⟨g, rfl⟩ := Nat.exists_eq_succ_of_ne_zero (Nat.ne_of_gt h1)
    -- the start `i` in front moves every index by one: marks `2g+1`, `2g+2` of the match are `2g`, `2g+1` of `rs`
    show ((rs.map (· + i)).getD (2 * g) 0, (rs.map (· + i)).getD (2 * g + 1) 0) = _
    exact Prod.ext (getD_map_add rs i _ (Nat.lt_of_succ_lt h2)) (getD_map_add rs i _ h2)

theorem getD_le_of_sorted {l : List Nat} (h : l.Pairwise (· ≤ ·)) {a b : Nat} (hab : a ≤ b) (hb : b < l.length) :
    l.getD a 0 ≤ l.getD b 0 := by
  have ha : a < l.length := by omega
  simp only [List.getD, List.getElem?_eq_getElem ha, List.getElem?_eq_getElem hb, Option.getD_some]
  rcases Nat.eq_or_lt_of_le hab with rfl | hlt
  · exact Nat.le_refl _
  · exact List.pairwise_iff_getElem.mp h a b ha hb hlt

theorem rspan_le {rs : List Nat} (hs : rs.Pairwise (· ≤ ·)) {g g' : Nat} (hgg : g ≤ g') (hg : HasGroup rs g') :
    (rspan rs g).1 ≤ (rspan rs g').2 := by
  rcases Nat.eq_zero_or_pos g with rfl | hpos
  · exact Nat.zero_le _
  · obtain ⟨h1, h2⟩ := hg.resolve_left fun h => by omega
    rw [rspan, rspan, if_neg (by omega), if_neg (by omega)]
    exact getD_le_of_sorted hs (by omega) h2

theorem rspan_snd_mem {rs : List Nat} {g : Nat} (hg : HasGroup rs g) : (rspan rs g).2 ∈ rs := by
  unfold rspan
  rcases hg with ⟨rfl, hne⟩ | ⟨h1, h2⟩
  · cases rs with
    | nil => exact absurd rfl hne
    | cons a l => rw [if_pos rfl, List.getLastD_cons]; exact List.getLastD_mem_cons
  · rw [if_neg (by omega)]
    show rs.getD (2 * g - 1) 0 ∈ rs
    rw [List.getD_eq_getElem?_getD, List.getElem?_eq_getElem h2]; exact List.getElem_mem h2

theorem group_window (w : Word) (i a b : Nat) (hi : i < w.length) (hb : b ≤ w.length) :
    group w (i + a) (i + b) = slice (window w i) a b := by
  rw [group_spec w (i + a) (i + b) (by omega), window, slice_take _ _ _ _ hb, slice_drop]; rfl

theorem group_view {w : Word} {i : Nat} {rs : List Nat} (hi : i < w.length)
    (hb : ∀ x ∈ rs, x ≤ w.length) (g : Nat) (hg : HasGroup rs g) :
    (⟨i :: rs.map (· + i)⟩ : Match).group w g = vgroup (window w i) rs g := by
  unfold Match.group vgroup
  rw [span_of_marks _ _ _ hg, Nat.add_comm _ i, Nat.add_comm _ i]
  exact group_window w i _ _ hi (hb _ (rspan_snd_mem hg))

theorem relMatch_window_marks {p : Pat} {w : Word} {i : Nat} {rel : List Nat} (hi : i < w.length)
    (hrel : relMatch p (window w i) = some rel) :
    rel.reverse.Pairwise (· ≤ ·) ∧ ∀ x ∈ rel.reverse, x ≤ w.length :=
  let ⟨_, hs, hb⟩ := relMatch_marks hrel; ⟨hs, window_length w i hi.le ▸ hb⟩

/-- **every group is read off the window**: for a match found at start `i` of a circular record, the text
of group `g` is the slice of the window at `i` delimited by the relative marks -/
theorem match_group_view {p : Pat} {w : Word} {i : Nat} {rel : List Nat} (hi : i < w.length)
    (hrel : relMatch p (window w i) = some rel) (g : Nat) (hg : HasGroup rel.reverse g) :
    (⟨i :: rel.reverse.map (· + i)⟩ : Match).group w g = vgroup (window w i) rel.reverse g :=
  group_view hi (relMatch_window_marks hi hrel).2 g hg

/-- the retained fragment, read off the view -/
def vTarget (kind : Kind) (text : Word) (rs : List Nat) : Word :=
  match kind with
  | .module => slice text (rspan rs 1).1 (rspan rs 2).2
  | .vector => text.drop (rspan rs 2).2 ++ text.take (rspan rs 1).1

theorem target_window (w : Word) (i a b : Nat) (hi : i < w.length) (hab : a ≤ b) (hb : b ≤ w.length) :
    pySlice (rotlI w ((a + i : Nat) : Int)) 0 (b + i - (a + i)) = slice (window w i) a b ∧
    pySlice (rotlI w ((a + i : Nat) : Int)) (b + i - (a + i)) w.length =
      (window w i).drop b ++ (window w i).take a := by
  have hwl := window_length w i hi.le
  have hl : b - a ≤ ((window w i).drop a).length := by
    rw [List.length_drop, hwl]; exact Nat.sub_le_sub_right hb a
  rw [rotlI_add_eq_window w i a hi.le (Nat.le_trans hab hb), Nat.add_sub_add_right]
  unfold pySlice slice
  constructor
  · rw [List.drop_zero, Nat.sub_zero, List.take_append_of_le_length hl]
  · rw [List.drop_append_of_le_length hl, List.drop_drop, Nat.add_sub_cancel' hab, List.take_of_length_le]
    rw [List.length_append, List.length_drop, List.length_take, hwl]; omega

theorem target_view {w : Word} {i : Nat} {rs : List Nat} (hi : i < w.length) (hs : rs.Pairwise (· ≤ ·))
    (hb : ∀ x ∈ rs, x ≤ w.length) {g g' : Nat} (hgg : g ≤ g') (hg : HasGroup rs g) (hg' : HasGroup rs g')
    (m : Match) (hm : m = ⟨i :: rs.map (· + i)⟩) :
    pySlice (rotlI w (m.span g).1) 0 ((m.span g').2 - (m.span g).1) = slice (window w i) (rspan rs g).1 (rspan rs g').2 ∧
    pySlice (rotlI w (m.span g).1) ((m.span g').2 - (m.span g).1) w.length =
      (window w i).drop (rspan rs g').2 ++ (window w i).take (rspan rs g).1 := by
  subst hm
  rw [span_of_marks _ _ _ hg, span_of_marks _ _ _ hg']
  exact target_window w i _ _ hi (rspan_le hs hgg hg') (hb _ (rspan_snd_mem hg'))

theorem targetWord_view {c : ClassSpec} {w : Word} {i : Nat} {rel : List Nat} (hi : i < w.length)
    (hrel : relMatch c.pat (window w i) = some rel) (h1 : HasGroup rel.reverse 1) (h2 : HasGroup rel.reverse 2) :
    targetWord c w ⟨i :: rel.reverse.map (· + i)⟩ = vTarget c.kind (window w i) rel.reverse := by
  obtain ⟨hs, hb⟩ := relMatch_window_marks hi hrel
  obtain ⟨t1, t2⟩ := target_view hi hs hb (by omega : 1 ≤ 2) h1 h2 _ rfl
  unfold targetWord vTarget
  cases c.kind
  · exact t1
  · exact t2

end Moclo
