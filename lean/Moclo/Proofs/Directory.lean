import Moclo.Model.Directory
/-! Directory registries: iteration and lookup agree.  A key is only ever given to a name spelt `key.ext` with a
listed extension (`key_spec`); such a name passes the wildcard listing whatever its case sensitivity
(`mem_keys_iff`), and it is among the names `lookup` tries. -/
namespace Moclo.Dir

theorem rsplitDot_eq_none {n : Name} : rsplitDot n = none ↔ dotC ∉ n := by
  induction n with
  | nil => exact ⟨fun _ => List.not_mem_nil, fun _ => rfl⟩
  | cons c cs ih =>
    rw [rsplitDot, List.mem_cons, not_or, ← ih]
    cases rsplitDot cs <;> simp [eq_comm]

theorem rsplitDot_spec : ∀ (n p e : Name), rsplitDot n = some (p, e) → n = p ++ dotC :: e ∧ dotC ∉ e := by
  intro n
  fun_induction rsplitDot n with
  | case1 => nofun
  | case2 c cs p' e' hr ih =>
    rintro p e ⟨⟩
    exact ⟨congrArg (c :: ·) (ih _ _ hr).1, (ih _ _ hr).2⟩
  | case3 cs hr ih =>
    -- no dot in `cs`, otherwise the recursive call would have split there
    rintro p e ⟨⟩
    exact ⟨rfl, rsplitDot_eq_none.mp hr⟩
  | case4 c cs hr hc ih => nofun

theorem rsplitDot_append (k : Name) {e : Name} (h : dotC ∉ e) : rsplitDot (k ++ dotC :: e) = some (k, e) := by
  induction k with
  | nil => simp [rsplitDot, rsplitDot_eq_none.mpr h]
  | cons c k ih => rw [List.cons_append, rsplitDot, ih]

theorem splitExt_ext (n : Name) : (splitExt n).2 = [] ∨ ∃ e, (splitExt n).2 = dotC :: e := by
  unfold splitExt
  split
  · exact Or.inl rfl
  · split
    · exact Or.inl rfl
    · exact Or.inr ⟨_, rfl⟩

theorem glob_of_suffix (ci : Bool) (k e : Name) : glob ci e (k ++ dotC :: e) = true := by
  unfold glob
  cases ci
  · simp only [Bool.false_eq_true, if_false, beq_iff_eq]
    rw [List.reverse_append, List.take_left' (by simp)]
  · simp only [if_true, beq_iff_eq]
    rw [List.map_append, List.reverse_append, List.take_left' (by simp)]

theorem key_spec {exts : List Name} (hne : [] ∉ exts) {n k : Name} (h : key exts n = some k) :
    slashC ∉ n ∧ ∃ e ∈ exts, n = k ++ dotC :: e := by
  simp only [key, Option.ite_none_left_eq_some, Option.ite_none_right_eq_some, Option.some.injEq] at h
  obtain ⟨hs, ⟨he, hj⟩, rfl⟩ := h
  refine ⟨hs, ?_⟩
  rcases splitExt_ext n with h0 | ⟨e, h1⟩
  · rw [h0] at he; exact absurd he hne
  · rw [h1] at he hj; exact ⟨e, he, hj.symm⟩

theorem mem_listing {ci : Bool} {exts : List Name} {dir : List Entry} {f : Entry} :
    f ∈ listing ci exts dir ↔ f ∈ dir ∧ f.isFile = true ∧ ∃ e ∈ exts, glob ci e f.name = true := by
  simp [listing, List.mem_filter, List.any_eq_true]

theorem mem_keys {ci : Bool} {exts : List Name} {dir : List Entry} {k : Name} :
    k ∈ keys ci exts dir ↔ ∃ f ∈ listing ci exts dir, key exts f.name = some k := by
  simp [keys, List.mem_filterMap]

/-- what the filesystem's wildcard matching lets through beyond the exact extension never gets a key, and
every file that gets a key is matched: the keys do not depend on the case sensitivity of the listing -/
theorem mem_keys_iff {ci : Bool} {exts : List Name} (hne : [] ∉ exts) {dir : List Entry} {k : Name} :
    k ∈ keys ci exts dir ↔ ∃ f ∈ dir, f.isFile = true ∧ key exts f.name = some k := by
  rw [mem_keys]
  constructor
  · rintro ⟨f, hf, hk⟩
    exact ⟨f, (mem_listing.mp hf).1, (mem_listing.mp hf).2.1, hk⟩
  · rintro ⟨f, hf, hfile, hk⟩
    obtain ⟨_, e, he, hn⟩ := key_spec hne hk
    exact ⟨f, mem_listing.mpr ⟨hf, hfile, e, he, by rw [hn]; exact glob_of_suffix ci k e⟩, hk⟩

theorem isFile_iff {dir : List Entry} {n : Name} :
    isFile dir n = true ↔ ∃ f ∈ dir, f.isFile = true ∧ f.name = n := by
  simp [isFile, List.any_eq_true]

theorem lookup_spec {exts : List Name} {dir : List Entry} {k n : Name} (h : lookup exts dir k = some n) :
    (∃ e ∈ exts, n = k ++ dotC :: e) ∧ key exts n = some k ∧ isFile dir n = true := by
  obtain ⟨e, he, rfl⟩ := List.mem_map.mp (List.mem_of_find?_eq_some h)
  exact ⟨⟨e, he, rfl⟩, by simpa only [Bool.and_eq_true, beq_iff_eq] using List.find?_some h⟩

theorem lookup_isSome {exts : List Name} {dir : List Entry} {k : Name} :
    (lookup exts dir k).isSome ↔
      ∃ e ∈ exts, key exts (k ++ dotC :: e) = some k ∧ isFile dir (k ++ dotC :: e) = true := by
  simp only [lookup, List.find?_isSome, List.mem_map, Bool.and_eq_true, beq_iff_eq]
  exact ⟨fun ⟨_, ⟨e, he, rfl⟩, h⟩ => ⟨e, he, h⟩, fun ⟨e, he, h⟩ => ⟨_, ⟨e, he, rfl⟩, h⟩⟩

theorem key_of_plasmid_name {exts : List Name} {k e : Name} (he : e ∈ exts) (hd : dotC ∉ e) (hk : k ≠ [])
    (hk1 : k ≠ [dotC]) (hs : slashC ∉ k ++ dotC :: e) : key exts (k ++ dotC :: e) = some k := by
  have hsplit : splitExt (k ++ dotC :: e) = (k, dotC :: e) := by
    -- `k` is not empty: when the name starts with a dot, the dot before `e` is a second one
    have hnot : ¬ ((k ++ dotC :: e).head? = some dotC ∧ (k ++ dotC :: e).count dotC = 1) := by
      obtain ⟨c, k', rfl⟩ := List.exists_cons_of_ne_nil hk
      rintro ⟨⟨⟩, hc⟩
      simp only [List.cons_append, List.count_cons_self, List.count_append] at hc
      omega
    unfold splitExt
    rw [if_neg hnot, rsplitDot_append k hd]
    simp [hk1]
  unfold key
  rw [if_neg hs, hsplit]
  simp [he]

end Moclo.Dir
