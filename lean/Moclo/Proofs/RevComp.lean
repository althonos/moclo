import Moclo.Proofs.Narrow
import Moclo.Proofs.Rc
/-! Reverse complement of patterns and of runs: a run read backwards on the other strand is a run of `rcPattern`
(`Run.mirror`, by induction on the run), hence strand symmetry of fitting on the circle
(`fits_rc_circular_window`). -/
namespace Moclo

def rcTok : Tok → Tok
  | .cls c => .cls c.compl
  | .star c g => .star c.compl g
  | .gopen => .gclose
  | .gclose => .gopen

/-- the pattern that matches the reverse complement: tokens in reverse order, letters complemented, group
boundaries exchanged -/
def rcPattern (p : Pat) : Pat := (p.map rcTok).reverse

theorem rcPattern_append (a b : Pat) : rcPattern (a ++ b) = rcPattern b ++ rcPattern a := by
  simp [rcPattern]

theorem rcPattern_lits (s : List Nt) : rcPattern (lits s) = lits (rcNt s) := by
  simp [rcPattern, lits, rcNt, List.map_map, Function.comp_def, rcTok, List.map_reverse]

theorem rcPattern_nRun (n : Nat) : rcPattern (nRun n) = nRun n := by
  simp [rcPattern, nRun, rcTok, Nt.compl]

/-- read on the other strand, group 1 is group 3 and group 3 is group 1 -/
theorem rcPattern_generic (kind : Kind) (g : Geom) : rcPattern (genericStructure kind g) = genericStructure kind g := by
  cases kind <;>
    simp only [genericStructure, moduleStructure, vectorStructure, rcPattern_append, rcPattern_lits, rcPattern_nRun,
      rcNt_rcNt, List.append_assoc] <;> rfl

theorem rcPattern_cons (t : Tok) (ts : Pat) : rcPattern (t :: ts) = rcPattern ts ++ [rcTok t] := by
  simp [rcPattern]

/-- by induction on the run: its first token becomes the last one of the mirrored run, appended by `Run.append` -/
theorem Run.mirror {ts : Pat} {xs : Word} {p : Nat} {ms : List Nat} {e : Nat} (h : Run ts xs p ms e)
    (he : e = p + xs.length) :
    Run (rcPattern ts) (rc xs) 0 (ms.reverse.map (fun m => e - m)) xs.length := by
  induction h with
  | nil xs p =>
    obtain rfl : xs = [] := List.length_eq_zero_iff.mp (by omega)
    exact Run.nil _ _
  | @cls c x ts xs p ms e hc _ ih =>
    rw [rcPattern_cons, rc_cons, ← List.append_nil (List.map _ _)]
    exact (ih (by simp at he; omega)).append (by simp)
      (Run.cls (by rw [clsMatch_compl]; exact hc) (Run.nil _ _))
  | @gopen ts xs p ms e _ ih =>
    rw [rcPattern_cons, ← List.append_nil (rc xs), List.reverse_cons, List.map_append, List.map_singleton,
      show e - p = xs.length by omega]
    exact (ih he).append (by simp) (Run.gclose (Run.nil _ _))
  | @gclose ts xs p ms e _ ih =>
    rw [rcPattern_cons, ← List.append_nil (rc xs), List.reverse_cons, List.map_append, List.map_singleton,
      show e - p = xs.length by omega]
    exact (ih he).append (by simp) (Run.gopen (Run.nil _ _))
  | @star c g ts xs p ms e j hj hall _ ih =>
    have ih := ih (by simp; omega)
    rw [List.length_drop] at ih
    rw [rcPattern_cons, ← List.append_nil (List.map _ _)]
    conv => arg 2; rw [← List.take_append_drop j xs, rc_append]
    refine ih.append (by simp) ?_
    have hl : (rc (xs.take j)).length = j := by simp; omega
    refine Run.star j (by omega) (fun y hy => ?_) ?_
    · obtain ⟨x0, hx0, rfl⟩ := mem_rc.mp (List.mem_of_mem_take hy)
      rw [clsMatch_compl]; exact hall x0 hx0
    · rw [List.drop_of_length_le (by omega), show xs.length - j + j = xs.length by omega]
      exact Run.nil _ _

/-- **if a structure fits a word exactly, its reverse-complement pattern fits the reverse complement of the
word**, the group boundaries being mirrored (`m ↦ length - m`, in reverse order) -/
theorem Run.rc_exact : ∀ (ts : Pat) (xs : Word) (ms : List Nat), Run ts xs 0 ms xs.length →
    Run (rcPattern ts) (rc xs) 0 (ms.reverse.map (fun m => xs.length - m)) xs.length :=
  fun _ _ _ h => h.mirror (Nat.zero_add _).symm

theorem slice_rc (A : Word) (a b : Nat) (hab : a ≤ b) :
    slice (rc A) (A.length - b) (A.length - a) = rc (slice A a b) := by
  -- `rc A = rc (A.drop b) ++ rc (slice A a b) ++ rc (A.take a)`, and the slice is the middle stretch
  have h := slice_mid (rc (A.drop b)) (rc (slice A a b)) (rc (A.take a))
  rwa [← rc_append, slice_append_drop A hab, ← rc_append, List.take_append_drop, rc_length, rc_length,
    List.length_drop, List.length_drop] at h

/-- strand symmetry of fitting on the circle, with the whole mirrored window made explicit: the window of the
reverse complement is the reverse complement of the consumed letters followed by the reverse complement of
the rest of the circle -/
theorem fits_rc_circular_window {p : Pat} {w : Word} {i : Nat} {ms : List Nat} {e : Nat} (hi : i < w.length)
    (h : Run p (window w i) 0 ms e) :
    ∃ j, j < w.length ∧ Run (rcPattern p) (window (rc w) j) 0 (ms.reverse.map (fun m => e - m)) e ∧
      window (rc w) j = rc ((window w i).take e) ++ rc ((window w i).drop e) ∧ e ≤ w.length := by
  have hn : 0 < w.length := by omega
  have hwl := window_length w i hi.le
  have he : e ≤ w.length := by have := h.bounds.2.1; omega
  set text := window w i with htext
  have hAl : (text.take e).length = e := by simp [hwl]; omega
  have hrc := h.restrict.mirror (by simp [hAl])
  rw [Nat.sub_zero, hAl] at hrc
  -- `rc text = rc (text.drop e) ++ rc (text.take e)` is a rotation of `rc w`, hence so is the mirrored window
  have hrot : (rc (text.take e) ++ rc (text.drop e)) ~r rc w := by
    refine List.isRotated_append.trans ?_
    rw [← rc_append, List.take_append_drop, htext, window_eq_rotate w i hi.le]
    exact rc_isRotated (List.IsRotated.forall _ _)
  obtain ⟨j0, hj0⟩ := hrot.symm
  have hw : window (rc w) (j0 % w.length) = rc (text.take e) ++ rc (text.drop e) := by
    rw [window_eq_rotate _ _ (by rw [rc_length]; exact (Nat.mod_lt _ hn).le), ← rc_length w, List.rotate_mod, hj0]
  exact ⟨j0 % w.length, Nat.mod_lt _ hn, hw ▸ hrc.extend _, hw, he⟩

end Moclo
