import Mathlib.Data.List.Forall2
/-! Relations lifted through `Option`, `Except` and lists: what the libraries lack. `Except.Rel R` is the shape of
every "same error, or related results" statement of the development (`OutcomeSame`, `ExceptCase`, `OutcomeCase`, in which
property theorems are stated, are instances of it: `outcomeSame_iff`, `exceptCase_iff`, `outcomeCase_iff`); its `bind` rule
is what lets a relation between inputs travel through a computation stage by stage. -/

namespace Except
variable {ε α β γ δ : Type}

theorem bind_eq_ok {x : Except ε α} {f : α → Except ε β} {b : β} :
    x.bind f = .ok b ↔ ∃ a, x = .ok a ∧ f a = .ok b := by
  cases x <;> simp [Except.bind]

theorem bind_eq_error {x : Except ε α} {f : α → Except ε β} {e : ε} :
    x.bind f = .error e ↔ x = .error e ∨ ∃ a, x = .ok a ∧ f a = .error e := by
  cases x <;> simp [Except.bind]

def Rel (R : α → β → Prop) : Except ε α → Except ε β → Prop
  | .error e, .error e' => e = e'
  | .ok a, .ok b => R a b
  | _, _ => False

theorem Rel.ok_left {R : α → β → Prop} {a : α} {y : Except ε β} (h : Rel R (.ok a) y) : ∃ b, y = .ok b ∧ R a b := by
  cases y with
  | error e => exact h.elim
  | ok b => exact ⟨b, rfl, h⟩

theorem rel_map_eq {f : α → γ} {x y : Except ε α} : Rel (fun a b => f b = f a) x y ↔ y.map f = x.map f := by
  cases x <;> cases y <;> simp [Rel, Except.map, eq_comm]

theorem Rel.bind {R : α → β → Prop} {S : γ → δ → Prop} {f : α → Except ε γ} {g : β → Except ε δ} :
    ∀ {x : Except ε α} {y : Except ε β}, Rel R x y → (∀ a b, R a b → Rel S (f a) (g b)) → Rel S (x.bind f) (y.bind g)
  | .error _, .error _, h, _ => h
  | .ok _, .ok _, h, hfg => hfg _ _ h

end Except

theorem Option.Rel.bind {α β γ δ : Type} {R : α → β → Prop} {S : γ → δ → Prop} {x : Option α} {y : Option β}
    {f : α → Option γ} {g : β → Option δ} (h : Option.Rel R x y) (hfg : ∀ a b, R a b → Option.Rel S (f a) (g b)) :
    Option.Rel S (x.bind f) (y.bind g) := by
  cases h with
  | none => exact .none
  | some hab => exact hfg _ _ hab

theorem Option.Rel.map {α β γ δ : Type} {R : α → β → Prop} {S : γ → δ → Prop} {x : Option α} {y : Option β}
    {f : α → γ} {g : β → δ} (h : Option.Rel R x y) (hfg : ∀ a b, R a b → S (f a) (g b)) :
    Option.Rel S (x.map f) (y.map g) := by
  cases h with
  | none => exact .none
  | some hab => exact .some (hfg _ _ hab)

theorem Option.rel_of_isSome_eq {α β : Type} {R : α → β → Prop} : ∀ {x : Option α} {y : Option β},
    y.isSome = x.isSome → (∀ a b, x = .some a → y = .some b → R a b) → Option.Rel R x y
  | .none, .none, _, _ => .none
  | .some _, .some _, _, h => .some (h _ _ rfl rfl)

theorem Option.Rel.of_none_left {α β : Type} {R : α → β → Prop} {y : Option β} (h : Option.Rel R .none y) : y = .none := by
  cases h; rfl

theorem Option.Rel.of_some_left {α β : Type} {R : α → β → Prop} {a : α} {y : Option β} (h : Option.Rel R (.some a) y) :
    ∃ b, y = .some b ∧ R a b := by
  cases h with | some h => exact ⟨_, rfl, h⟩

theorem Option.Rel.of_some_right {α β : Type} {R : α → β → Prop} {x : Option α} {b : β} (h : Option.Rel R x (.some b)) :
    ∃ a, x = .some a ∧ R a b := by
  cases h with | some h => exact ⟨_, rfl, h⟩

namespace List
variable {α β γ δ : Type}

theorem Forall₂.exists_of_mem_right {R : α → β → Prop} {l : List α} {l' : List β} (h : Forall₂ R l l') :
    ∀ b ∈ l', ∃ a ∈ l, R a b := by
  induction h with
  | nil => simp
  | cons hab _ ih => simpa using ⟨Or.inl hab, fun b hb => Or.inr (ih b hb)⟩

theorem Forall₂.map_eq {f : α → γ} {g : β → γ} {l : List α} {l' : List β}
    (h : Forall₂ (fun a b => f a = g b) l l') : l.map f = l'.map g := by
  induction h with
  | nil => rfl
  | cons hab _ ih => rw [map_cons, map_cons, hab, ih]

theorem exists_forall₂_iff {R : α → β → Prop} {l : List α} : (∃ l', Forall₂ R l l') ↔ ∀ a ∈ l, ∃ b, R a b := by
  induction l with
  | nil => simp
  | cons a as ih =>
    simp only [forall₂_cons_left_iff, mem_cons, forall_eq_or_imp, ← ih]
    exact ⟨fun ⟨_, b, bs, hb, hbs, _⟩ => ⟨⟨b, hb⟩, bs, hbs⟩, fun ⟨⟨b, hb⟩, bs, hbs⟩ => ⟨_, b, bs, hb, hbs, rfl⟩⟩

theorem Forall₂.find? {R : α → β → Prop} {p : α → Bool} {q : β → Bool} {l : List α} {l' : List β}
    (h : Forall₂ R l l') (hpq : ∀ a b, R a b → p a = q b) : Option.Rel R (l.find? p) (l'.find? q) := by
  induction h with
  | nil => exact .none
  | @cons a b _ _ hab _ ih =>
    rw [find?_cons, find?_cons, hpq a b hab]
    cases q b
    · exact ih
    · exact .some hab

theorem mapM_eq_some_iff {f : α → Option β} {l : List α} {l' : List β} :
    l.mapM f = some l' ↔ Forall₂ (fun a b => f a = some b) l l' := by
  induction l generalizing l' with
  | nil => cases l' <;> simp
  | cons a as ih =>
    rw [mapM_cons, forall₂_cons_left_iff]
    simp only [Option.bind_eq_bind, Option.bind_eq_some_iff, Option.pure_def, Option.some.injEq, ih]
    exact ⟨fun ⟨b, hb, bs, hbs, e⟩ => ⟨b, bs, hb, hbs, e.symm⟩, fun ⟨b, bs, hb, hbs, e⟩ => ⟨b, hb, bs, hbs, e.symm⟩⟩

theorem mapM_eq_none_iff {f : α → Option β} {l : List α} : l.mapM f = none ↔ ∃ a ∈ l, f a = none := by
  -- failing is not succeeding: the two lemmas above under a negation
  simp only [Option.eq_none_iff_forall_ne_some, ne_eq, mapM_eq_some_iff, ← not_exists, exists_forall₂_iff,
    not_forall, exists_prop]

theorem Forall₂.mapM_option {R : α → β → Prop} {S : γ → δ → Prop} {f : α → Option γ} {g : β → Option δ}
    {l : List α} {l' : List β} (h : Forall₂ R l l') (hfg : ∀ a b, R a b → Option.Rel S (f a) (g b)) :
    Option.Rel (Forall₂ S) (l.mapM f) (l'.mapM g) := by
  induction h with
  | nil => exact .some .nil
  | cons hab _ ih =>
    rw [mapM_cons, mapM_cons]
    exact (hfg _ _ hab).bind fun _ _ hcd => ih.bind fun _ _ hs => .some (.cons hcd hs)

end List
