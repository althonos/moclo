import Moclo.Proofs.Report
import Moclo.Proofs.Flank
import Moclo.Proofs.ScreenRc
/-! What a class reports about a record whose matched window is written as `P0·G1·G2·G3·P4·R`, the stretches
the unique fit of its structure delimits (`report_of_parts_at`; C01 adds the rotations), and the mirror image of that
report on the other strand (`report_rc_parts`). -/
namespace Moclo
open Moclo.C02

theorem rc_length'' (A : Word) : (rc A).length = A.length := rc_length A

theorem vgroup_seven (text : Word) (a1 b1 a2 b2 a3 b3 e : Nat) :
    vgroup text [a1, b1, a2, b2, a3, b3, e] 0 = text.take e ∧ vgroup text [a1, b1, a2, b2, a3, b3, e] 1 = slice text a1 b1 ∧
    vgroup text [a1, b1, a2, b2, a3, b3, e] 2 = slice text a2 b2 ∧ vgroup text [a1, b1, a2, b2, a3, b3, e] 3 = slice text a3 b3 :=
  ⟨slice_zero _ _, rfl, rfl, rfl⟩

theorem vTarget_seven (kind : Kind) (text : Word) (a1 b1 a2 b2 a3 b3 e : Nat) :
    vTarget kind text [a1, b1, a2, b2, a3, b3, e] =
      match kind with
      | .module => slice text a1 b2
      | .vector => text.drop b2 ++ text.take a1 := by cases kind <;> rfl

/-- `P0` lies before group 1, `P4` after group 3 up to the end of the match, `R` is the rest of the circle -/
theorem report_of_parts_at {c : ClassSpec} (h3 : ThreeGroups c.pat) {w : Word} {i : Nat} {P0 G1 G2 G3 P4 R : Word}
    (hu : UniqueFit c.pat w) (hi : i < w.length) (hw : window w i = P0 ++ G1 ++ G2 ++ G3 ++ P4 ++ R)
    (hr : Run c.pat (P0 ++ G1 ++ G2 ++ G3 ++ P4 ++ R) 0
      [P0.length, (P0 ++ G1).length, (P0 ++ G1).length, (P0 ++ G1 ++ G2).length, (P0 ++ G1 ++ G2).length,
        (P0 ++ G1 ++ G2 ++ G3).length] (P0 ++ G1 ++ G2 ++ G3 ++ P4).length) :
    report c w =
      if validCuts c.geom (P0 ++ G1 ++ G2 ++ G3 ++ P4) > 2 then .error .illegal
      else .ok (match c.kind with
        | .module => (G1, G3, G1 ++ G2, G1 ++ G2)
        | .vector => (G3, G1, G3 ++ P4 ++ R ++ P0, G1 ++ G2)) := by
  rw [report_of_uniqueFit h3 hu hi (by rwa [hw]), hw]
  have g1 : slice (P0 ++ G1 ++ G2 ++ G3 ++ P4 ++ R) P0.length (P0 ++ G1).length = G1 := by
    simpa [List.append_assoc] using slice_mid P0 G1 (G2 ++ G3 ++ P4 ++ R)
  have g2 : slice (P0 ++ G1 ++ G2 ++ G3 ++ P4 ++ R) (P0 ++ G1).length (P0 ++ G1 ++ G2).length = G2 := by
    simpa [List.append_assoc] using slice_mid (P0 ++ G1) G2 (G3 ++ P4 ++ R)
  have g3 : slice (P0 ++ G1 ++ G2 ++ G3 ++ P4 ++ R) (P0 ++ G1 ++ G2).length (P0 ++ G1 ++ G2 ++ G3).length = G3 := by
    simpa [List.append_assoc] using slice_mid (P0 ++ G1 ++ G2) G3 (P4 ++ R)
  obtain ⟨v0, v1, v2, v3⟩ := vgroup_seven (P0 ++ G1 ++ G2 ++ G3 ++ P4 ++ R) P0.length (P0 ++ G1).length (P0 ++ G1).length
    (P0 ++ G1 ++ G2).length (P0 ++ G1 ++ G2).length (P0 ++ G1 ++ G2 ++ G3).length (P0 ++ G1 ++ G2 ++ G3 ++ P4).length
  simp only [List.cons_append, List.nil_append, vTarget_seven, v0, v1, v2, g1, g2, List.take_left']
  cases hk : c.kind
  · have t : slice (P0 ++ G1 ++ G2 ++ G3 ++ P4 ++ R) P0.length (P0 ++ G1 ++ G2).length = G1 ++ G2 := by
      simpa [List.append_assoc] using slice_mid P0 (G1 ++ G2) (G3 ++ P4 ++ R)
    simp only [ClassSpec.upGroup, ClassSpec.downGroup, hk, v1, v3, g1, g3, t]
  · have t1 : (P0 ++ G1 ++ G2 ++ G3 ++ P4 ++ R).drop (P0 ++ G1 ++ G2).length = G3 ++ P4 ++ R := by
      simp [List.append_assoc]
    have t2 : (P0 ++ G1 ++ G2 ++ G3 ++ P4 ++ R).take P0.length = P0 := by simp [List.append_assoc]
    simp only [ClassSpec.upGroup, ClassSpec.downGroup, hk, v1, v3, g1, g3, t1, t2]

theorem Run.exists_parts {p : Pat} {text : Word} {a1 b1 b2 b3 e : Nat} (hr : Run p text 0 [a1, b1, b1, b2, b2, b3] e) :
    ∃ P0 G1 G2 G3 P4 R, text = P0 ++ G1 ++ G2 ++ G3 ++ P4 ++ R ∧ P0.length = a1 ∧ (P0 ++ G1).length = b1 ∧
      (P0 ++ G1 ++ G2).length = b2 ∧ (P0 ++ G1 ++ G2 ++ G3).length = b3 ∧ (P0 ++ G1 ++ G2 ++ G3 ++ P4).length = e := by
  have hs := hr.sorted
  simp only [List.cons_append, List.nil_append, List.pairwise_cons, List.mem_cons, List.not_mem_nil, or_false,
    forall_eq_or_imp, forall_eq] at hs
  obtain ⟨h1, h2, h3, h4, he⟩ : a1 ≤ b1 ∧ b1 ≤ b2 ∧ b2 ≤ b3 ∧ b3 ≤ e ∧ e ≤ text.length := by
    have := hr.bounds.2.1; omega
  have tk : ∀ {a b}, a ≤ b → text.take a ++ slice text a b = text.take b := fun h => by
    rw [← slice_zero, slice_join _ _ _ _ (Nat.zero_le _) h, slice_zero]
  have ln : ∀ {a}, a ≤ e → (text.take a).length = a := fun h => List.length_take_of_le (h.trans he)
  exact ⟨text.take a1, slice text a1 b1, slice text b1 b2, slice text b2 b3, slice text b3 e, text.drop e,
    by rw [tk h1, tk h2, tk h3, tk h4, List.take_append_drop], ln (by omega), by rw [tk h1]; exact ln (by omega),
    by rw [tk h1, tk h2]; exact ln (by omega), by rw [tk h1, tk h2, tk h3]; exact ln h4,
    by rw [tk h1, tk h2, tk h3, tk h4]; exact ln (Nat.le_refl e)⟩

theorem report_rc_parts {c : ClassSpec} (h3 : ThreeGroups c.pat) (hself : rcPattern c.pat = c.pat)
    (hnp : c.geom.site ≠ rcNt c.geom.site) (hs : 1 ≤ c.geom.site.length) {w : Word} {i a1 b1 b2 b3 e : Nat}
    (hu : UniqueFit c.pat w) (hu' : UniqueFit c.pat (rc w)) (hi : i < w.length)
    (hr : Run c.pat (window w i) 0 [a1, b1, b1, b2, b2, b3] e) :
    ∃ P0 G1 G2 G3 P4 R,
      report c w = (if validCuts c.geom (P0 ++ G1 ++ G2 ++ G3 ++ P4) > 2 then .error .illegal
        else .ok (match c.kind with
          | .module => (G1, G3, G1 ++ G2, G1 ++ G2)
          | .vector => (G3, G1, G3 ++ P4 ++ R ++ P0, G1 ++ G2))) ∧
      report c (rc w) = (if validCuts c.geom (P0 ++ G1 ++ G2 ++ G3 ++ P4) > 2 then .error .illegal
        else .ok (match c.kind with
          | .module => (rc G3, rc G1, rc G3 ++ rc G2, rc G3 ++ rc G2)
          | .vector => (rc G1, rc G3, rc G1 ++ rc P0 ++ rc R ++ rc P4, rc G3 ++ rc G2))) := by
  obtain ⟨j, hj, hr', hwin, -⟩ := fits_rc_circular_window hi hr
  obtain ⟨P0, G1, G2, G3, P4, R, ht, rfl, rfl, rfl, rfl, rfl⟩ := hr.exists_parts
  rw [ht] at hr
  refine ⟨P0, G1, G2, G3, P4, R, report_of_parts_at h3 hu hi ht hr, ?_⟩
  rw [ht, List.take_left' rfl, List.drop_left' rfl] at hwin
  have hwin' : window (rc w) j = rc P4 ++ rc G3 ++ rc G2 ++ rc G1 ++ rc P0 ++ rc R := by
    simpa only [rc_append, List.append_assoc] using hwin
  -- the mirrored marks `e - m` are the lengths of the mirrored stretches
  have hm : ([P0.length, (P0 ++ G1).length, (P0 ++ G1).length, (P0 ++ G1 ++ G2).length, (P0 ++ G1 ++ G2).length,
        (P0 ++ G1 ++ G2 ++ G3).length].reverse.map fun m => (P0 ++ G1 ++ G2 ++ G3 ++ P4).length - m) =
      [(rc P4).length, (rc P4 ++ rc G3).length, (rc P4 ++ rc G3).length, (rc P4 ++ rc G3 ++ rc G2).length,
        (rc P4 ++ rc G3 ++ rc G2).length, (rc P4 ++ rc G3 ++ rc G2 ++ rc G1).length] := by
    simp only [List.length_append, rc_length, List.reverse_cons, List.reverse_nil, List.nil_append, List.cons_append,
      List.map_cons, List.map_nil, List.cons.injEq, and_true]
    omega
  rw [hself, hm, show (P0 ++ G1 ++ G2 ++ G3 ++ P4).length = (rc P4 ++ rc G3 ++ rc G2 ++ rc G1 ++ rc P0).length by
    simp only [List.length_append, rc_length]; omega, hwin'] at hr'
  rw [report_of_parts_at h3 hu' (by rwa [rc_length]) hwin' hr',
    show rc P4 ++ rc G3 ++ rc G2 ++ rc G1 ++ rc P0 = rc (P0 ++ G1 ++ G2 ++ G3 ++ P4) by
      simp only [rc_append, List.append_assoc], validCuts_rc _ _ hnp hs]

/-- **the generic vector class, read off its unique fit**: with `A` the consumed letters and `B` the rest of
the circle, it reports `A[e-k-1:e-1]` upstream, `A[1:1+k]` downstream, target
`A[e-k-1:e-1] · (A[e-1:] · B · A[:1])` and placeholder `A[1:e-k-1]` -/
theorem vector_report_of_fit (g : Geom) {w : Word} {i : Nat} {ms : List Nat} {e : Nat}
    (hi : i < w.length) (hr : Run (vectorStructure g) (window w i) 0 ms e)
    (hu : ∀ j ms' e', j < w.length → Run (vectorStructure g) (window w j) 0 ms' e' → j = i ∧ ms' = ms ∧ e' = e) :
    report { kind := .vector, pat := vectorStructure g, geom := g } w =
      if validCuts g ((window w i).take e) > 2 then .error .illegal
      else .ok (slice ((window w i).take e) (e - (g.k + 1)) (e - 1),
                slice ((window w i).take e) 1 (1 + g.k),
                slice ((window w i).take e) (e - (g.k + 1)) (e - 1) ++
                  (((window w i).take e).drop (e - 1) ++ (window w i).drop e ++ ((window w i).take e).take 1),
                slice ((window w i).take e) 1 (e - (g.k + 1))) := by
  rw [report_of_uniqueFit (c := { kind := .vector, pat := vectorStructure g, geom := g })
    (show ThreeGroups (genericStructure .vector g) from C05.generic_eq .vector g ▸ threeGroup_three_groups ..)
    ⟨i, ms, e, hi, hr, hu⟩ hi hr]
  obtain ⟨rfl, hlen⟩ := vector_run_marks g hr
  have he : e ≤ (window w i).length := by have := hr.bounds.2.1; omega
  obtain ⟨v0, v1, v2, v3⟩ := vgroup_seven (window w i) 1 (1 + g.k) (1 + g.k) (e - (g.k + 1)) (e - (g.k + 1)) (e - 1) e
  simp only [ClassSpec.upGroup, ClassSpec.downGroup, List.cons_append, List.nil_append, vTarget_seven, v0, v1, v2, v3]
  rw [slice_take _ e _ _ (Nat.sub_le ..), slice_take _ e _ _ (show 1 + g.k ≤ e by omega),
    slice_take _ e _ _ (show e - (g.k + 1) ≤ e by omega),
    slice_join _ _ _ _ (Nat.le_add_right ..) (show 1 + g.k ≤ e - (g.k + 1) by omega), List.take_take,
    Nat.min_eq_left (show 1 ≤ e by omega)]
  -- `text[e-k-1:] = text[e-k-1:e-1] · text[e-1:e] · text[e:]`
  have h1 := slice_append_drop (window w i) (show e - (g.k + 1) ≤ e - 1 by omega)
  have h2 := slice_append_drop (window w i) (Nat.sub_le e 1)
  have h3 : ((window w i).take e).drop (e - 1) = slice (window w i) (e - 1) e := List.drop_take ..
  simp only [← h1, ← h2, h3, List.append_assoc]

end Moclo
