import Moclo.Model.Structure
/-! The model writes the structures as left-nested `++`, which the kernel evaluates by walking the head of the list
again for every piece; the table checks of `Tables/` therefore evaluate the right-nested forms below. -/
namespace Moclo

theorem moduleStructure_assoc (g : Geom) : moduleStructure g =
    lits g.site ++ (nRun g.off ++ (.gopen :: (nRun g.k ++ (.gclose :: .gopen :: .cls .N :: .star .N true :: .cls .N ::
      .gclose :: .gopen :: (nRun g.k ++ (.gclose :: (nRun g.off ++ lits (rcNt g.site)))))))) := by
  simp only [moduleStructure, List.append_assoc]; rfl
theorem vectorStructure_assoc (g : Geom) : vectorStructure g =
    .cls .N :: .gopen :: (nRun g.k ++ (.gclose :: .gopen :: (nRun g.off ++ (lits (rcNt g.site) ++
      (.star .N true :: (lits g.site ++ (nRun g.off ++ (.gclose :: .gopen :: (nRun g.k ++ [.gclose, .cls .N])))))))))  := by
  simp only [vectorStructure, List.append_assoc]; rfl
theorem modulePartStructure_assoc (g : Geom) (up down : List Nt) : modulePartStructure g up down =
    lits g.site ++ (nRun g.off ++ (.gopen :: (lits up ++ (.gclose :: .gopen :: .cls .N :: .star .N true :: .cls .N ::
      .gclose :: .gopen :: (lits down ++ (.gclose :: (nRun g.off ++ lits (rcNt g.site)))))))) := by
  simp only [modulePartStructure, List.append_assoc]; rfl
theorem vectorPartStructure_assoc (g : Geom) (up down : List Nt) : vectorPartStructure g up down =
    .cls .N :: .gopen :: (lits down ++ (.gclose :: .gopen :: (nRun g.off ++ (lits (rcNt g.site) ++
      (.star .N true :: (lits g.site ++ (nRun g.off ++ (.gclose :: .gopen :: (lits up ++ [.gclose, .cls .N])))))))))  := by
  simp only [vectorPartStructure, List.append_assoc]; rfl

theorem Tables.sites_spec {α : Type} {l : List α} {site : α → List Nt}
    (h : l.all (fun r => (site r).all Nt.isBase && (site r != rcNt (site r))) = true) {r : α} (hr : r ∈ l) :
    (site r).all Nt.isBase = true ∧ site r ≠ rcNt (site r) := by
  simpa only [Bool.and_eq_true, bne_iff_ne] using List.all_eq_true.mp h r hr

end Moclo
