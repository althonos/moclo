import Moclo.Model.ThreePrime
import Moclo.Proofs.Report
/-!
# 3'-overhang cutters: the screen is the same function, the fragments are read off the same view
-/
namespace Moclo

/-- the two cut positions of a site are the same pair of numbers whichever strand keeps the overhang, and the
validity rule is symmetric in them: a 3' cutter and a 5' cutter with the same `(site, off, k)` have valid
cuts at exactly the same sites -/
theorem cutAt3_eq (g : Geom) (text : Word) (i : Nat) : cutAt3 g text i = cutAt g text i := by
  unfold cutAt3 cutAt
  simp only []
  split
  · rw [decide_eq_decide]; omega
  · split
    · rw [decide_eq_decide]; omega
    · rfl

theorem validCuts3_eq (g : Geom) (text : Word) : validCuts3 g text = validCuts g text := by
  unfold validCuts3 validCuts
  rw [funext (cutAt3_eq g text)]

theorem matchSeq3_eq (c : ClassSpec) (w : Word) : c.matchSeq3 w = c.matchSeq w := by
  unfold ClassSpec.matchSeq3 ClassSpec.matchSeq
  cases search c.pat w true <;> simp only [validCuts3_eq]

/-- the retained fragment on the 3' branch, as a word -/
def targetWord3 (c : ClassSpec) (w : Word) (m : Match) : Word :=
  match c.kind with
  | .module => pySlice (rotlI w (m.span 2).1) 0 ((m.span 3).2 - (m.span 2).1)
  | .vector => pySlice (rotlI w (m.span 2).1) ((m.span 3).2 - (m.span 2).1) w.length

theorem targetOf3_seq (c : ClassSpec) (r : Rec) (m : Match) : (c.targetOf3 r m).seq = targetWord3 c r.seq m := by
  unfold ClassSpec.targetOf3 targetWord3
  cases c.kind <;> simp [Rec.rotl_seq]

/-- the 3' fragment read off the view -/
def vTarget3 (kind : Kind) (text : Word) (rs : List Nat) : Word :=
  match kind with
  | .module => slice text (rspan rs 2).1 (rspan rs 3).2
  | .vector => text.drop (rspan rs 3).2 ++ text.take (rspan rs 2).1

theorem targetWord3_view {c : ClassSpec} {w : Word} {i : Nat} {rel : List Nat} (hi : i < w.length)
    (hrel : relMatch c.pat (window w i) = some rel) (h2 : HasGroup rel.reverse 2) (h3 : HasGroup rel.reverse 3) :
    targetWord3 c w ⟨i :: rel.reverse.map (· + i)⟩ = vTarget3 c.kind (window w i) rel.reverse := by
  obtain ⟨hs, hb⟩ := relMatch_window_marks hi hrel
  obtain ⟨t1, t2⟩ := target_view hi hs hb (by omega : 2 ≤ 3) h2 h3 _ rfl
  unfold targetWord3 vTarget3
  cases c.kind
  · exact t1
  · exact t2

/-- everything a class over a 3'-overhang cutter reports: overhangs, target, placeholder (group 2 followed by
the upstream overhang; meaningful for vectors) -/
def report3 (c : ClassSpec) (w : Word) : Except Err (Word × Word × Word × Word) :=
  (c.matchSeq3 w).map (fun m => (m.group w c.upGroup, m.group w c.downGroup, targetWord3 c w m,
    m.group w 2 ++ m.group w c.upGroup))

theorem report3_of_view {c : ClassSpec} {w : Word} {i : Nat} {rel : List Nat} (h3 : C02.ThreeGroups c.pat)
    (hi : i < w.length) (hrel : relMatch c.pat (window w i) = some rel)
    (hs : search c.pat w true = some ⟨i :: rel.reverse.map (· + i)⟩) :
    report3 c w =
      if validCuts c.geom (vgroup (window w i) rel.reverse 0) > 2 then .error .illegal
      else .ok (vgroup (window w i) rel.reverse c.upGroup, vgroup (window w i) rel.reverse c.downGroup,
                vTarget3 c.kind (window w i) rel.reverse,
                vgroup (window w i) rel.reverse 2 ++ vgroup (window w i) rel.reverse c.upGroup) := by
  have hg := fun g hg => C02.hasGroup_of_three h3 hrel g hg
  unfold report3
  rw [matchSeq3_eq, C02.matchSeq_of_view hi hrel hs]
  split
  · rfl
  · simp only [Except.map, match_group_view hi hrel 2 (hg 2 (by omega)),
      targetWord3_view hi hrel (hg 2 (by omega)) (hg 3 (by omega)), match_group_view hi hrel _ (hg _ c.upGroup_le),
      match_group_view hi hrel _ (hg _ c.downGroup_le)]

end Moclo
