import Moclo.Proofs.Regex
/-! A declarative account of a successful match *with positions*: which letters each token consumed and
where each group boundary fell.  Lets one reason about a structure from both ends (before and after the
wildcard run). -/
namespace Moclo

/-- `Run ts xs p ms e`: pattern `ts` fits the text `xs` starting at absolute position `p`, recording the
group boundaries `ms` (reading order) and ending at position `e`. -/
inductive Run : Pat → Word → Nat → List Nat → Nat → Prop
  | nil (xs p) : Run [] xs p [] p
  | cls {c x ts xs p ms e} : clsMatch c x = true → Run ts xs (p+1) ms e → Run (.cls c :: ts) (x :: xs) p ms e
  | gopen {ts xs p ms e} : Run ts xs p ms e → Run (.gopen :: ts) xs p (p :: ms) e
  | gclose {ts xs p ms e} : Run ts xs p ms e → Run (.gclose :: ts) xs p (p :: ms) e
  | star {c g ts xs p ms e} (j : Nat) : j ≤ xs.length → (∀ x ∈ xs.take j, clsMatch c x = true) →
      Run ts (xs.drop j) (p + j) ms e → Run (.star c g :: ts) xs p ms e

theorem Run.nil_iff {xs : Word} {p : Nat} {ms : List Nat} {e : Nat} : Run [] xs p ms e ↔ ms = [] ∧ e = p :=
  ⟨fun h => by cases h; exact ⟨rfl, rfl⟩, fun ⟨h1, h2⟩ => h1 ▸ h2 ▸ Run.nil _ _⟩

theorem Run.cls_iff {c : Nt} {ts : Pat} {xs : Word} {p : Nat} {ms : List Nat} {e : Nat} :
    Run (.cls c :: ts) xs p ms e ↔ ∃ x xs', xs = x :: xs' ∧ clsMatch c x = true ∧ Run ts xs' (p + 1) ms e :=
  ⟨fun h => by cases h with | cls hc hr => exact ⟨_, _, rfl, hc, hr⟩, fun ⟨_, _, h, hc, hr⟩ => h ▸ Run.cls hc hr⟩

theorem Run.gopen_iff {ts : Pat} {xs : Word} {p : Nat} {ms : List Nat} {e : Nat} :
    Run (.gopen :: ts) xs p ms e ↔ ∃ ms', ms = p :: ms' ∧ Run ts xs p ms' e :=
  ⟨fun h => by cases h with | gopen hr => exact ⟨_, rfl, hr⟩, fun ⟨_, h, hr⟩ => h ▸ Run.gopen hr⟩

theorem Run.gclose_iff {ts : Pat} {xs : Word} {p : Nat} {ms : List Nat} {e : Nat} :
    Run (.gclose :: ts) xs p ms e ↔ ∃ ms', ms = p :: ms' ∧ Run ts xs p ms' e :=
  ⟨fun h => by cases h with | gclose hr => exact ⟨_, rfl, hr⟩, fun ⟨_, h, hr⟩ => h ▸ Run.gclose hr⟩

theorem Run.star_iff {c : Nt} {g : Bool} {ts : Pat} {xs : Word} {p : Nat} {ms : List Nat} {e : Nat} :
    Run (.star c g :: ts) xs p ms e ↔
      ∃ j, j ≤ xs.length ∧ (∀ x ∈ xs.take j, clsMatch c x = true) ∧ Run ts (xs.drop j) (p + j) ms e :=
  ⟨fun h => by cases h with | star j hj ha hr => exact ⟨j, hj, ha, hr⟩, fun ⟨j, hj, ha, hr⟩ => Run.star j hj ha hr⟩

theorem Run.chain {ts xs p ms e} (h : Run ts xs p ms e) :
    (p :: (ms ++ [e])).Pairwise (· ≤ ·) ∧ e ≤ p + xs.length := by
  have lower : ∀ {q p : Nat} {l : List Nat}, q ≤ p → (p :: l).Pairwise (· ≤ ·) → (q :: l).Pairwise (· ≤ ·) :=
    fun hq h => let ⟨h1, h2⟩ := List.pairwise_cons.mp h
      List.pairwise_cons.mpr ⟨fun x hx => Nat.le_trans hq (h1 x hx), h2⟩
  induction h with
  | nil => simp
  | cls _ _ ih => exact ⟨lower (Nat.le_succ _) ih.1, by rw [List.length_cons]; omega⟩
  | gopen _ ih | gclose _ ih =>
    exact ⟨List.pairwise_cons.mpr ⟨fun x hx => (List.mem_cons.mp hx).elim (fun h => Nat.le_of_eq h.symm)
      ((List.pairwise_cons.mp ih.1).1 x), ih.1⟩, ih.2⟩
  | star j hj _ _ ih =>
    exact ⟨lower (Nat.le_add_right _ _) ih.1, by have := ih.2; rw [List.length_drop] at this; omega⟩

theorem Run.sorted {ts xs p ms e} (h : Run ts xs p ms e) : (ms ++ [e]).Pairwise (· ≤ ·) :=
  (List.pairwise_cons.mp h.chain.1).2

theorem Run.bounds {ts xs p ms e} (h : Run ts xs p ms e) : p ≤ e ∧ e ≤ p + xs.length ∧ ∀ m ∈ ms, p ≤ m ∧ m ≤ e := by
  obtain ⟨h1, h2⟩ := List.pairwise_cons.mp h.chain.1
  exact ⟨h1 e (by simp), h.chain.2, fun m hm =>
    ⟨h1 m (List.mem_append_left _ hm), (List.pairwise_append.mp h2).2.2 m hm e (List.mem_singleton_self e)⟩⟩

theorem Run.marks_le {ts xs p ms e} (h : Run ts xs p ms e) : ∀ x ∈ ms ++ [e], x ≤ p + xs.length := fun x hx =>
  Nat.le_trans ((List.mem_append.mp hx).elim (fun hm => (h.bounds.2.2 x hm).2)
    fun he => Nat.le_of_eq (List.mem_singleton.mp he)) h.bounds.2.1

theorem Run.length_ms {ts xs p ms e} (h : Run ts xs p ms e) : ms.length = nmarks ts := by
  induction h <;> simp [nmarks, *]

theorem Run.append_iff {a b : Pat} {xs : Word} {p : Nat} {ms : List Nat} {e : Nat} :
    Run (a ++ b) xs p ms e ↔
      ∃ mid msA msB, Run a xs p msA mid ∧ Run b (xs.drop (mid - p)) mid msB e ∧ ms = msA ++ msB := by
  induction a generalizing xs p ms with
  | nil => simp [Run.nil_iff]
  | cons t ts ih =>
    -- when the first token takes `j` letters, the rest of `a` runs from `p + j` on `xs.drop j`
    have step : ∀ {xs : Word} {j mid msA}, Run ts (xs.drop j) (p + j) msA mid →
        (xs.drop j).drop (mid - (p + j)) = xs.drop (mid - p) := fun h => by
      rw [List.drop_drop]; congr 1; have := h.bounds.1; omega
    cases t with
    | cls c =>
      simp only [List.cons_append, Run.cls_iff, ih]
      constructor
      · rintro ⟨x, xs', rfl, hc, mid, msA, msB, h1, h2, rfl⟩
        exact ⟨mid, msA, msB, ⟨x, xs', rfl, hc, h1⟩, step (xs := x :: xs') (j := 1) h1 ▸ h2, rfl⟩
      · rintro ⟨mid, msA, msB, ⟨x, xs', rfl, hc, h1⟩, h2, rfl⟩
        exact ⟨x, xs', rfl, hc, mid, msA, msB, h1, step (xs := x :: xs') (j := 1) h1 ▸ h2, rfl⟩
    | gopen | gclose =>
      simp only [List.cons_append, Run.gopen_iff, Run.gclose_iff, ih]
      constructor
      · rintro ⟨_, rfl, mid, msA, msB, h1, h2, rfl⟩; exact ⟨mid, _, msB, ⟨msA, rfl, h1⟩, h2, rfl⟩
      · rintro ⟨mid, _, msB, ⟨msA, rfl, h1⟩, h2, rfl⟩; exact ⟨_, rfl, mid, msA, msB, h1, h2, rfl⟩
    | star c g =>
      simp only [List.cons_append, Run.star_iff, ih]
      constructor
      · rintro ⟨j, hj, ha, mid, msA, msB, h1, h2, rfl⟩
        exact ⟨mid, msA, msB, ⟨j, hj, ha, h1⟩, step h1 ▸ h2, rfl⟩
      · rintro ⟨mid, msA, msB, ⟨j, hj, ha, h1⟩, h2, rfl⟩
        exact ⟨j, hj, ha, mid, msA, msB, h1, (step h1).symm ▸ h2, rfl⟩

theorem Run.extend {ts : Pat} {xs : Word} {p : Nat} {ms : List Nat} {e : Nat} (h : Run ts xs p ms e) (ys : Word) :
    Run ts (xs ++ ys) p ms e := by
  induction h with
  | nil xs p => exact Run.nil _ _
  | cls hc _ ih => exact Run.cls hc ih
  | gopen _ ih => exact Run.gopen ih
  | gclose _ ih => exact Run.gclose ih
  | @star c g ts xs p ms e j hj hall hr ih =>
    refine Run.star j (by simp; omega) ?_ ?_
    · rw [List.take_append_of_le_length hj]; exact hall
    · rw [List.drop_append_of_le_length hj]; exact ih

theorem Run.append {a b : Pat} {xs ys : Word} {p e e' : Nat} {ms ms' : List Nat}
    (h1 : Run a xs p ms e) (he : e = p + xs.length) (h2 : Run b ys e ms' e') :
    Run (a ++ b) (xs ++ ys) p (ms ++ ms') e' :=
  Run.append_iff.mpr ⟨e, ms, ms', h1.extend ys, by rw [he, Nat.add_sub_cancel_left, List.drop_left]; exact he ▸ h2, rfl⟩

theorem Run.restrict {ts : Pat} {xs : Word} {p : Nat} {ms : List Nat} {e : Nat} (h : Run ts xs p ms e) :
    Run ts (xs.take (e - p)) p ms e := by
  induction h with
  | nil xs p => exact Run.nil _ _
  | @cls c x ts xs p ms e hc hr ih =>
    have hb := hr.bounds.1
    have : e - p = (e - (p + 1)) + 1 := by omega
    rw [this, List.take_succ_cons]
    exact Run.cls hc ih
  | gopen _ ih => exact Run.gopen ih
  | gclose _ ih => exact Run.gclose ih
  | @star c g ts xs p ms e j hj hall hr ih =>
    have hb := hr.bounds
    have hje : j ≤ e - p := by omega
    refine Run.star j (by simp only [List.length_take]; omega) ?_ ?_
    · rw [List.take_take, Nat.min_eq_left hje]; exact hall
    · rw [List.drop_take]
      have : e - p - j = e - (p + j) := by omega
      rw [this]; exact ih

/-! `Fits` is `Run` with the marks forgotten. -/

theorem Run.toFits {ts xs p ms e} (h : Run ts xs p ms e) : ∃ n, Fits ts xs n ∧ e = p + n := by
  induction h with
  | nil => exact ⟨0, .nil _, rfl⟩
  | cls hc _ ih => obtain ⟨n, hf, rfl⟩ := ih; exact ⟨n + 1, .cls hc hf, by omega⟩
  | gopen _ ih => obtain ⟨n, hf, rfl⟩ := ih; exact ⟨n, .gopen hf, rfl⟩
  | gclose _ ih => obtain ⟨n, hf, rfl⟩ := ih; exact ⟨n, .gclose hf, rfl⟩
  | star j hj hall _ ih => obtain ⟨n, hf, rfl⟩ := ih; exact ⟨j + n, .star j hj hall hf, by omega⟩

theorem Fits.toRun {ts xs n} (h : Fits ts xs n) (p : Nat) : ∃ ms, Run ts xs p ms (p + n) := by
  induction h generalizing p with
  | nil => exact ⟨[], .nil _ _⟩
  | cls hc _ ih => obtain ⟨ms, hr⟩ := ih (p + 1); exact ⟨ms, .cls hc (by rwa [Nat.add_right_comm] at hr)⟩
  | gopen _ ih => obtain ⟨ms, hr⟩ := ih p; exact ⟨p :: ms, .gopen hr⟩
  | gclose _ ih => obtain ⟨ms, hr⟩ := ih p; exact ⟨p :: ms, .gclose hr⟩
  | star j hj hall _ ih => obtain ⟨ms, hr⟩ := ih (p + j); exact ⟨ms, .star j hj hall (by rwa [Nat.add_assoc] at hr)⟩

end Moclo
