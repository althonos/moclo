import Moclo.Model.Graph
import Mathlib.Data.List.Perm.Basic
import Mathlib.Data.List.Nodup
/-! The overhang graph: the map as a dictionary with duplicate-free keys, what map building returns,
the pop-walk as a relation, permutation invariance, the outcome of `gAssemble` read off the walk. -/
namespace Moclo
variable {O : Type} [DecidableEq O]

def keys (map : List (GMod O)) : List O := map.map (·.start)

theorem gLookup_some {map : List (GMod O)} {k : O} {m : GMod O} (h : gLookup map k = some m) :
    m ∈ map ∧ m.start = k :=
  ⟨List.mem_of_find?_eq_some h, by simpa using List.find?_some h⟩

theorem gLookup_none {map : List (GMod O)} {k : O} : gLookup map k = none ↔ ∀ m ∈ map, m.start ≠ k := by
  simp [gLookup]

theorem gLookup_eq_some_iff {map : List (GMod O)} (hn : (keys map).Nodup) {k : O} {m : GMod O} :
    gLookup map k = some m ↔ m ∈ map ∧ m.start = k := by
  refine ⟨gLookup_some, fun ⟨hm, hk⟩ => ?_⟩
  cases h : gLookup map k with
  | none => exact absurd hk (gLookup_none.mp h m hm)
  | some m' =>
    obtain ⟨hm', hk'⟩ := gLookup_some h
    rw [List.inj_on_of_nodup_map hn hm' hm (hk'.trans hk.symm)]

omit [DecidableEq O] in
theorem keys_nodup_of_perm {a b : List (GMod O)} (hp : a.Perm b) (hn : (keys a).Nodup) : (keys b).Nodup :=
  (hp.map _).nodup_iff.mp hn

theorem gLookup_perm {map map' : List (GMod O)} (hp : map.Perm map') (hn : (keys map).Nodup) (k : O) :
    gLookup map k = gLookup map' k :=
  Option.ext fun m => by
    rw [gLookup_eq_some_iff hn, gLookup_eq_some_iff (keys_nodup_of_perm hp hn), hp.mem_iff]

theorem gErase_perm {map : List (GMod O)} {k : O} {m : GMod O} (h : gLookup map k = some m) :
    map.Perm (m :: gErase map k) := by
  obtain ⟨hk, as, bs, rfl, has⟩ := List.find?_eq_some_iff_append.mp h
  rw [gErase, List.eraseP_append_right _ (by simpa using has), List.eraseP_cons_of_pos (a := m) hk]
  exact List.perm_middle

theorem gErase_length {map : List (GMod O)} {k : O} {m : GMod O} (h : gLookup map k = some m) :
    (gErase map k).length + 1 = map.length :=
  (gErase_perm h).length_eq.symm

theorem keys_gErase_nodup {map : List (GMod O)} (hn : (keys map).Nodup) (k : O) :
    (keys (gErase map k)).Nodup :=
  hn.sublist (List.eraseP_sublist.map _)

omit [DecidableEq O] in
theorem keys_nodup_split {map c r : List (GMod O)} (hn : (keys map).Nodup) (hp : map.Perm (c ++ r)) :
    (keys c).Nodup ∧ (∀ m ∈ c, m ∈ map) ∧ ∀ m, m ∈ r ↔ m ∈ map ∧ m ∉ c := by
  have hk : (keys c ++ keys r).Nodup := by simpa [keys] using keys_nodup_of_perm hp hn
  have hd := List.disjoint_of_nodup_append (List.Nodup.of_map _ (keys_nodup_of_perm hp hn))
  refine ⟨hk.of_append_left, fun m hm => hp.mem_iff.mpr (List.mem_append_left _ hm), fun m => ?_⟩
  rw [hp.mem_iff, List.mem_append]
  exact ⟨fun hr => ⟨Or.inr hr, fun hc => hd hc hr⟩, fun ⟨h, hc⟩ => h.resolve_left hc⟩

/-- the same Python object is the same module -/
def SameObj (l : List (GMod O)) : Prop := ∀ m ∈ l, ∀ m' ∈ l, m.oid = m'.oid → m = m'

/-- no two *different* modules share a start overhang -/
def StartFree (l : List (GMod O)) : Prop := ∀ m ∈ l, ∀ m' ∈ l, m.start = m'.start → m = m'

omit [DecidableEq O] in
theorem sameObj_of_nodup_oid {l : List (GMod O)} (h : (l.map (·.oid)).Nodup) : SameObj l :=
  fun _ hm _ hm' ho => List.inj_on_of_nodup_map h hm hm' ho

/-- The one induction over `gBuild`; the accumulator is general only for its sake, every caller starts
from `[]`.  Nothing is assumed about object identities: under `SameObj` the last clause on success says that
every supplied module is in the map. -/
theorem gBuild_spec (ms acc : List (GMod O)) (hn : (keys acc).Nodup) :
    match gBuild ms acc with
    | .ok out => (keys out).Nodup ∧ (∀ g ∈ out, g ∈ acc ++ ms) ∧
        ∀ m ∈ acc ++ ms, ∃ m' ∈ out, m'.start = m.start ∧ m'.oid = m.oid
    | .error e => e = .duplicate ∧
        ∃ m ∈ acc ++ ms, ∃ m' ∈ acc ++ ms, m.start = m'.start ∧ m.oid ≠ m'.oid := by
  induction ms generalizing acc with
  | nil => simpa [gBuild, hn] using fun m hm => ⟨m, hm, rfl, rfl⟩
  | cons x xs ih =>
    cases hl : gLookup acc x.start with
    | none =>
      simp only [gBuild, hl]
      have hn' : (keys (acc ++ [x])).Nodup := by
        rw [keys, List.map_append, List.nodup_append]
        exact ⟨hn, List.nodup_singleton _, by simpa using gLookup_none.mp hl⟩
      have := ih (acc ++ [x]) hn'
      rwa [List.append_assoc, List.singleton_append] at this
    | some y =>
      obtain ⟨hy, hys⟩ := gLookup_some hl
      simp only [gBuild, hl]
      have hsub := ((List.sublist_cons_self x xs).append_left acc).subset
      by_cases ho : y.oid = x.oid
      · rw [if_pos ho]
        have := ih acc hn
        split at this
        · obtain ⟨h1, h2, h3⟩ := this
          refine ⟨h1, fun g hg => hsub (h2 g hg), fun m hm => ?_⟩
          rcases List.mem_append.mp hm with hm | hm
          · exact h3 m (List.mem_append_left _ hm)
          · rcases List.mem_cons.mp hm with rfl | hm
            · rw [← hys, ← ho]; exact h3 y (List.mem_append_left _ hy)
            · exact h3 m (List.mem_append_right _ hm)
        · obtain ⟨h1, m, hm, m', hm', h2⟩ := this
          exact ⟨h1, m, hsub hm, m', hsub hm', h2⟩
      · rw [if_neg ho]
        exact ⟨rfl, y, List.mem_append_left _ hy, x, by simp, hys, ho⟩

theorem gBuild_ok {mods map : List (GMod O)} (h : gBuild mods [] = .ok map) :
    (keys map).Nodup ∧ (∀ g ∈ map, g ∈ mods) ∧ ∀ m ∈ mods, ∃ m' ∈ map, m'.start = m.start ∧ m'.oid = m.oid := by
  have := gBuild_spec mods [] List.nodup_nil
  rwa [h] at this

theorem gBuild_error {mods : List (GMod O)} {e : GErr O} (h : gBuild mods [] = .error e) :
    e = .duplicate ∧ ¬ StartFree mods := by
  have := gBuild_spec mods [] List.nodup_nil
  rw [h] at this
  obtain ⟨he, m, hm, m', hm', hs, ho⟩ := this
  exact ⟨he, fun hsf => ho (congrArg _ (hsf m hm m' hm' hs))⟩

theorem gBuild_ok_sameObj {mods map : List (GMod O)} (hid : SameObj mods) (h : gBuild mods [] = .ok map) :
    (keys map).Nodup ∧ (∀ m, m ∈ map ↔ m ∈ mods) ∧ StartFree mods := by
  obtain ⟨hn, hsub, hkeep⟩ := gBuild_ok h
  have hmem : ∀ m ∈ mods, m ∈ map := fun m hm => by
    obtain ⟨m', hm', _, ho⟩ := hkeep m hm
    rwa [← hid m' (hsub m' hm') m hm ho]
  exact ⟨hn, fun m => ⟨hsub m, hmem m⟩,
    fun m hm m' hm' hs => List.inj_on_of_nodup_map hn (hmem m hm) (hmem m' hm') hs⟩

theorem gBuild_ok_iff {mods : List (GMod O)} (hid : SameObj mods) :
    (∃ map, gBuild mods [] = .ok map) ↔ StartFree mods := by
  refine ⟨fun ⟨map, h⟩ => (gBuild_ok_sameObj hid h).2.2, fun hs => ?_⟩
  cases h : gBuild mods [] with
  | ok map => exact ⟨map, rfl⟩
  | error e => exact absurd hs (gBuild_error h).2

/-- the graph of the pop-walk, independent of fuel -/
inductive Walk (stop : O) : O → List (GMod O) → List (GMod O) → List (GMod O) → Option O → Prop
  | done {cur map} : cur = stop → Walk stop cur map [] map none
  | stall {cur map} : cur ≠ stop → gLookup map cur = none → Walk stop cur map [] map (some cur)
  | step {cur map m chain rest stall} : cur ≠ stop → gLookup map cur = some m →
      Walk stop m.stop (gErase map cur) chain rest stall → Walk stop cur map (m :: chain) rest stall

/-- the walk never runs out of fuel when given one more than the size of the map -/
theorem gWalk_walk (stop : O) (fuel : Nat) (cur : O) (map : List (GMod O)) (h : map.length < fuel) :
    Walk stop cur map (gWalk stop fuel cur map).1 (gWalk stop fuel cur map).2.1 (gWalk stop fuel cur map).2.2 := by
  induction fuel generalizing cur map with
  | zero => omega
  | succ f ih =>
    unfold gWalk
    split
    · rename_i hc; exact Walk.done hc
    · rename_i hc
      split
      · rename_i hl; exact Walk.stall hc hl
      · rename_i m hl
        have hlen := gErase_length hl
        exact Walk.step hc hl (ih m.stop (gErase map cur) (by omega))

/-- with `gWalk_walk`: given enough fuel, `Walk` is the graph of `gWalk` -/
theorem Walk.gWalk_eq {stop cur : O} {map chain rest : List (GMod O)} {stall : Option O}
    (h : Walk stop cur map chain rest stall) {fuel : Nat} (hf : map.length < fuel) :
    gWalk stop fuel cur map = (chain, rest, stall) := by
  induction h generalizing fuel with
  | done hc => cases fuel <;> simp [gWalk, hc]
  | stall hc hl =>
    obtain ⟨f, rfl⟩ : ∃ f, fuel = f + 1 := ⟨fuel - 1, by omega⟩
    simp [gWalk, hc, hl]
  | @step cur map m chain rest stall hc hl _ ih =>
    obtain ⟨f, rfl⟩ : ∃ f, fuel = f + 1 := ⟨fuel - 1, by omega⟩
    have hlen := gErase_length hl
    simp [gWalk, hc, hl, ih (fuel := f) (by omega)]

theorem gWalk_eq_iff {stop cur : O} {map chain rest : List (GMod O)} {stall : Option O} {fuel : Nat}
    (hf : map.length < fuel) :
    gWalk stop fuel cur map = (chain, rest, stall) ↔ Walk stop cur map chain rest stall :=
  ⟨fun h => by simpa [h] using gWalk_walk stop fuel cur map hf, fun h => h.gWalk_eq hf⟩

/-- consecutive modules are linked by their overhangs, from `a` to `b` -/
def IsPath : O → List (GMod O) → O → Prop
  | a, [], b => a = b
  | a, m :: c, b => m.start = a ∧ IsPath m.stop c b

theorem Walk.spec {stop cur : O} {map chain rest : List (GMod O)} {stall : Option O}
    (h : Walk stop cur map chain rest stall) :
    map.Perm (chain ++ rest) ∧ (∀ m ∈ chain, m.start ≠ stop) ∧
    (match stall with
     | none => IsPath cur chain stop
     | some o => IsPath cur chain o ∧ o ≠ stop ∧ ∀ m ∈ rest, m.start ≠ o) := by
  induction h with
  | done hc => exact ⟨List.Perm.refl _, by simp, hc⟩
  | stall hc hl => exact ⟨List.Perm.refl _, by simp, rfl, hc, gLookup_none.mp hl⟩
  | @step cur map m chain rest stall hc hl hw ih =>
    obtain ⟨h1, h2, h3⟩ := ih
    obtain ⟨hm, hk⟩ := gLookup_some hl
    refine ⟨(gErase_perm hl).trans (List.Perm.cons m h1), ?_, ?_⟩
    · intro x hx
      rcases List.mem_cons.mp hx with rfl | hx
      · rw [hk]; exact hc
      · exact h2 x hx
    · cases stall with
      | none => exact ⟨hk, h3⟩
      | some o => exact ⟨⟨hk, h3.1⟩, h3.2⟩

/-- a simple path inside the map that avoids `stop` is exactly what the walk follows -/
theorem Walk.of_path {stop : O} {map : List (GMod O)} (hn : (keys map).Nodup) :
    ∀ (chain : List (GMod O)) (cur : O), IsPath cur chain stop → (∀ m ∈ chain, m ∈ map) →
      (keys chain).Nodup → (∀ m ∈ chain, m.start ≠ stop) →
      ∃ rest, Walk stop cur map chain rest none := by
  intro chain
  induction chain generalizing map with
  | nil => intro cur hp _ _ _; exact ⟨map, Walk.done hp⟩
  | cons m c ih =>
    intro cur hp hmem hnd hns
    obtain ⟨hs, hp'⟩ := hp
    have hl : gLookup map cur = some m := (gLookup_eq_some_iff hn).mpr ⟨hmem m (by simp), hs⟩
    simp only [keys, List.map_cons, List.nodup_cons] at hnd
    have hmem' : ∀ x ∈ c, x ∈ gErase map cur := by
      intro x hx
      rcases List.mem_cons.mp ((gErase_perm hl).mem_iff.mp (hmem x (by simp [hx]))) with rfl | h
      · exact absurd (List.mem_map_of_mem hx) hnd.1
      · exact h
    obtain ⟨rest, hw⟩ := ih (keys_gErase_nodup hn cur) m.stop hp' hmem' hnd.2 (fun x hx => hns x (by simp [hx]))
    exact ⟨rest, Walk.step (hs ▸ hns m (by simp)) hl hw⟩

theorem Walk.exists (stop cur : O) (map : List (GMod O)) : ∃ chain rest stall, Walk stop cur map chain rest stall :=
  ⟨_, _, _, gWalk_walk stop (map.length + 1) cur map (Nat.lt_succ_self _)⟩

theorem Walk.perm {stop cur : O} {map chain rest : List (GMod O)} {stall : Option O}
    (h : Walk stop cur map chain rest stall) (hn : (keys map).Nodup) :
    ∀ map', map.Perm map' → ∃ rest', Walk stop cur map' chain rest' stall ∧ rest.Perm rest' := by
  induction h with
  | done hc => intro map' hp; exact ⟨map', Walk.done hc, hp⟩
  | stall hc hl => intro map' hp; exact ⟨map', Walk.stall hc (gLookup_perm hp hn _ ▸ hl), hp⟩
  | @step cur map m chain rest stall hc hl hw ih =>
    intro map' hp
    have hl' : gLookup map' cur = some m := gLookup_perm hp hn _ ▸ hl
    have pe : (gErase map cur).Perm (gErase map' cur) :=
      (List.perm_cons m).mp ((gErase_perm hl).symm.trans (hp.trans (gErase_perm hl')))
    obtain ⟨rest', hw', hr⟩ := ih (keys_gErase_nodup hn cur) _ pe
    exact ⟨rest', Walk.step hc hl' hw', hr⟩

theorem gRcClash_iff (rc : O → O) (map : List (GMod O)) :
    gRcClash rc map = true ↔ ∃ m ∈ map, ∃ m' ∈ map, m'.start = rc m.start := by
  simp only [gRcClash, gLookup, List.any_eq_true, List.find?_isSome, decide_eq_true_eq]

theorem gRcClash_congr (rc : O → O) {map map' : List (GMod O)} (h : ∀ m, m ∈ map ↔ m ∈ map') :
    gRcClash rc map = gRcClash rc map' := by
  rw [Bool.eq_iff_iff, gRcClash_iff, gRcClash_iff]
  simp only [h]

/-- needs no `SameObj`: the scan looks at start overhangs only, and the map keeps every one supplied -/
theorem gRcClash_of_build (rc : O → O) {mods map : List (GMod O)} (h : gBuild mods [] = .ok map) :
    gRcClash rc map = false ↔ ∀ m ∈ mods, ∀ m' ∈ mods, m'.start ≠ rc m.start := by
  obtain ⟨_, hsub, hkeep⟩ := gBuild_ok h
  rw [← Bool.not_eq_true, gRcClash_iff]
  constructor
  · intro hno m hm m' hm' hs
    obtain ⟨k, hk, hks, _⟩ := hkeep m hm
    obtain ⟨k', hk', hks', _⟩ := hkeep m' hm'
    exact hno ⟨k, hk, k', hk', by rw [hks, hks', hs]⟩
  · rintro hno ⟨m, hm, m', hm', hs⟩
    exact hno m (hsub m hm) m' (hsub m' hm') hs

omit [DecidableEq O] in
theorem SameObj.perm {a b : List (GMod O)} (hp : a.Perm b) (h : SameObj a) : SameObj b :=
  fun m hm m' hm' ho => h m (hp.mem_iff.mpr hm) m' (hp.mem_iff.mpr hm') ho

omit [DecidableEq O] in
theorem StartFree.perm {a b : List (GMod O)} (hp : a.Perm b) (h : StartFree a) : StartFree b :=
  fun m hm m' hm' ho => h m (hp.mem_iff.mpr hm) m' (hp.mem_iff.mpr hm') ho

theorem gBuild_perm {mods mods' map map' : List (GMod O)} (hp : mods.Perm mods') (hid : SameObj mods)
    (h : gBuild mods [] = .ok map) (h' : gBuild mods' [] = .ok map') : map.Perm map' := by
  obtain ⟨n1, m1, _⟩ := gBuild_ok_sameObj hid h
  obtain ⟨n2, m2, _⟩ := gBuild_ok_sameObj (hid.perm hp) h'
  refine (List.perm_ext_iff_of_nodup (List.Nodup.of_map _ n1) (List.Nodup.of_map _ n2)).mpr fun m => ?_
  rw [m1 m, m2 m, hp.mem_iff]

theorem gAssemble_of_walk {rc : O → O} {vUp vDown : O} {mods map chain rest : List (GMod O)} {stall : Option O}
    (hv : vUp ≠ vDown) (hb : gBuild mods [] = .ok map) (hw : Walk vUp vDown map chain rest stall) :
    gAssemble rc vUp vDown mods =
      if gRcClash rc map then .error .duplicate
      else match (generalizing := false) stall with
        | none => .ok (chain, rest)
        | some o => .error (.missing o) := by
  rw [gAssemble, if_neg hv, hb]
  simp only [hw.gWalk_eq (Nat.lt_succ_self _)]
  cases stall <;> rfl

theorem gAssemble_ok_iff {rc : O → O} {vUp vDown : O} {mods chain rest : List (GMod O)} :
    gAssemble rc vUp vDown mods = .ok (chain, rest) ↔
      vUp ≠ vDown ∧ ∃ map, gBuild mods [] = .ok map ∧ gRcClash rc map = false ∧
        gWalk vUp (map.length + 1) vDown map = (chain, rest, none) := by
  by_cases hv : vUp = vDown
  · simp [gAssemble, hv]
  cases hb : gBuild mods [] with
  | error e => simp [gAssemble, hv, hb]
  | ok map =>
    obtain ⟨c, r, s, hw⟩ := Walk.exists vUp vDown map
    rw [gAssemble_of_walk hv hb hw]
    simp only [hv, ne_eq, not_false_eq_true, true_and, Except.ok.injEq, exists_eq_left',
      hw.gWalk_eq (Nat.lt_succ_self _)]
    cases gRcClash rc map <;> cases s <;> simp

end Moclo
