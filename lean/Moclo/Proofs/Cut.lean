import Moclo.Proofs.Flank
/-! Cut-aligned structures: where the recognition sites sit relative to the overhang groups of a match
(`cutAligned_sound`), and that the closed forms of `Model/Structure.lean` are cut-aligned for every geometry. -/
namespace Moclo

theorem Run.back_fixed {front f : Pat} {xs : Word} {p : Nat} {ms : List Nat} {e : Nat} (hf : starFree f = true)
    (h : Run (front ++ f) xs p ms e) : p + width f ≤ e ∧ matchesAt (letters f) (xs.drop (e - width f - p)) := by
  obtain ⟨mid, _, _, h1, h2, _⟩ := Run.append_iff.mp h
  obtain ⟨rfl, hm⟩ := h2.fixed hf
  have := h1.bounds.1
  exact ⟨by omega, by rwa [show mid + width f - width f - p = mid - p by omega]⟩

theorem Run.front_rev {s : List Nt} {o : Nat} {rest : Pat} {xs : Word} {p : Nat} {ms : List Nat} {e : Nat}
    (h : Run (nRun o ++ lits s ++ rest) xs p ms e) : matchesAt s (xs.drop o) := by
  have := ((Run.starFree_append_iff (by simp)).mp h).1
  rw [letters_append, letters_lits, letters_nRun] at this
  simpa using matchesAt_append_right this

theorem Run.back_site {front : Pat} {s : List Nt} {o : Nat} {xs : Word} {p : Nat} {ms : List Nat} {e : Nat}
    (h : Run (front ++ (lits s ++ nRun o)) xs p ms e) :
    p + s.length + o ≤ e ∧ matchesAt s (xs.drop (e - o - s.length - p)) := by
  obtain ⟨h1, h2⟩ := h.back_fixed (by simp)
  simp only [width_append, width_lits, width_nRun, letters_append, letters_lits] at h1 h2
  exact ⟨by omega, by rw [show e - o - s.length - p = e - (s.length + o) - p by omega]; exact matchesAt_append_left h2⟩

theorem Run.back_rev {front : Pat} {s : List Nt} {o : Nat} {xs : Word} {p : Nat} {ms : List Nat} {e : Nat}
    (h : Run (front ++ (nRun o ++ lits s)) xs p ms e) :
    p + s.length + o ≤ e ∧ matchesAt s (xs.drop (e - s.length - p)) := by
  obtain ⟨h1, h2⟩ := h.back_fixed (by simp)
  simp only [width_append, width_lits, width_nRun, letters_append, letters_lits, letters_nRun] at h1 h2
  have := matchesAt_append_right h2
  rw [List.drop_drop, List.length_replicate] at this
  exact ⟨by omega, by rwa [show e - s.length - p = e - (o + s.length) - p + o by omega]⟩

/-- **soundness of cut-alignment**: in any match of a cut-aligned structure, with `a1` the start of group 1
and `b2` the end of group 2 (so group 1 = `[a1, a1+k)`, group 3 = `[b2, b2+k)`):
* either the cutter's site is matched ending `off` letters before `a1` (the enzyme cuts the top strand right
  before group 1), or its reverse complement is matched starting `off` letters after the end of group 1 (the
  enzyme on the other strand cuts right after it) — so group 1 is the single-stranded overhang of a cut;
* and symmetrically for group 3. -/
theorem cutAligned_sound {g : Geom} {p : Pat} {xs : Word} {ms : List Nat} {e : Nat}
    (hca : cutAligned g p = true) (h : Run p xs 0 ms e) :
    ∃ a1 b2, ms = [a1, a1 + g.k, a1 + g.k, b2, b2, b2 + g.k] ∧ a1 + g.k ≤ b2 ∧ b2 + g.k ≤ e ∧
      ((g.site.length + g.off ≤ a1 ∧ matchesAt g.site (xs.drop (a1 - g.off - g.site.length))) ∨
        matchesAt (rcNt g.site) (xs.drop (a1 + g.k + g.off))) ∧
      (matchesAt (rcNt g.site) (xs.drop (b2 + g.k + g.off)) ∨
        (a1 + g.k + g.site.length + g.off ≤ b2 ∧ matchesAt g.site (xs.drop (b2 - g.off - g.site.length)))) := by
  unfold cutAligned at hca
  split at hca
  · cases hca
  rename_i pre g1 g2 g3 suf hs
  simp only [Bool.and_eq_true, Bool.or_eq_true, List.isSuffixOf_iff_suffix, List.isPrefixOf_iff_prefix] at hca
  obtain ⟨⟨⟨hf1, hf3⟩, hleft⟩, hright⟩ := hca
  obtain ⟨rfl, mpre, -, mg2, -, msuf⟩ := splitGroups_sound hs
  obtain ⟨a1, b2, hms, hle1, hle2, rpre, -, rg2, -, rsuf⟩ := threeGroup_run mpre mg2 msuf hf1 hf3 h
  refine ⟨a1, b2, hms, hle1, hle2, ?_, ?_⟩
  · rcases hleft with ⟨front, rfl⟩ | ⟨rest, rfl⟩
    · obtain ⟨h1, h2⟩ := rpre.back_site
      exact .inl ⟨by omega, by simpa using h2⟩
    · exact .inr (by simpa only [List.drop_drop] using rg2.front_rev)
  · rcases hright with ⟨rest, rfl⟩ | ⟨front, rfl⟩
    · exact .inl (by simpa only [List.drop_drop] using rsuf.front_rev)
    · obtain ⟨h1, h2⟩ := rg2.back_site
      rw [List.drop_drop, show a1 + g.k + (b2 - g.off - g.site.length - (a1 + g.k)) = b2 - g.off - g.site.length by
        omega] at h2
      exact .inr ⟨by omega, h2⟩

theorem cutAligned_threeGroup (g : Geom) {pre g1 g2 g3 suf : Pat} (h0 : markless pre) (h1 : markless g1)
    (h2 : markless g2) (h3 : markless g3) (h4 : markless suf) :
    cutAligned g (threeGroup pre g1 g2 g3 suf) =
      (isFixed g.k g1 && isFixed g.k g3 &&
        ((lits g.site ++ nRun g.off).isSuffixOf pre || (nRun g.off ++ lits (rcNt g.site)).isPrefixOf g2) &&
        ((nRun g.off ++ lits (rcNt g.site)).isPrefixOf suf || (lits g.site ++ nRun g.off).isSuffixOf g2)) := by
  simp only [cutAligned, splitGroups_threeGroup h0 h1 h2 h3 h4]

/-- **the closed forms are cut-aligned, for every geometry**: a module structure has `site N^off` right before
group 1 and `N^off rc(site)` right after group 3, a vector structure has them at the two ends of group 2 -/
theorem cutAligned_part (kind : Kind) (g : Geom) (up down : List Nt) (hu : up.length = g.k) (hd : down.length = g.k) :
    cutAligned g (partStructure kind g up down) = true := by
  obtain ⟨hp, hm, hs⟩ := C05.pieces_markless kind g
  rw [C05.part_eq, cutAligned_threeGroup g hp (markless_lits _) hm (markless_lits _) hs]
  have f1 : isFixed g.k (lits up) = true := hu ▸ isFixed_lits up
  have f3 : isFixed g.k (lits down) = true := hd ▸ isFixed_lits down
  cases kind
  · simp [C05.preOf, C05.sufOf, C05.sig1, C05.sig3, f1, f3]
  · simp only [C05.preOf, C05.midOf, C05.sufOf, C05.sig1, C05.sig3, f1, f3, Bool.true_and, Bool.and_eq_true,
      Bool.or_eq_true, List.isPrefixOf_iff_prefix, List.isSuffixOf_iff_suffix, List.append_assoc]
    exact ⟨Or.inr ⟨_, List.append_assoc ..⟩,
      Or.inr ⟨nRun g.off ++ lits (rcNt g.site) ++ [.star .N true], by simp only [List.append_assoc]⟩⟩

theorem cutAligned_generic (kind : Kind) (g : Geom) : cutAligned g (genericStructure kind g) = true := by
  have e : genericStructure kind g = partStructure kind g (List.replicate g.k .N) (List.replicate g.k .N) := by
    cases kind <;> simp [genericStructure, partStructure, moduleStructure, modulePartStructure, vectorStructure,
      vectorPartStructure, lits, nRun]
  rw [e]; exact cutAligned_part kind g _ _ (by simp) (by simp)

end Moclo
