import Moclo.Proofs.Graph
/-!
# C03 — ambiguous or incomplete module sets never produce a plasmid

Model: `gAssemble` (`AssemblyManager.__init__` check, `_generate_modules_map`, `_generate_assembly`
on abstract overhangs): dictionary in insertion order, `setdefault`, reverse-complement scan, `pop` walk.
Generic in the overhang type, so in particular for upper-cased `Seq` keys with Biopython's
`reverse_complement`.  `SameObj` is the harmless well-formedness guard "one Python object is one module".

The independent specification of success:
* `vUp ≠ vDown`;
* `StartFree mods`: no two different modules share a start overhang;
* `NoRc rc mods`: no start overhang is the reverse complement of a start overhang (itself included);
* `Chain mods vDown chain vUp`: the chain is made of supplied modules, linked end-to-start from the
  vector's downstream overhang to its upstream overhang, uses no start overhang twice and stops at the
  first arrival at `vUp`.
-/
namespace Moclo.C03
open Moclo
variable {O : Type} [DecidableEq O]

def NoRc (rc : O → O) (mods : List (GMod O)) : Prop := ∀ m ∈ mods, ∀ m' ∈ mods, m'.start ≠ rc m.start

def Chain (mods : List (GMod O)) (a : O) (chain : List (GMod O)) (b : O) : Prop :=
  IsPath a chain b ∧ (∀ m ∈ chain, m ∈ mods) ∧ (keys chain).Nodup ∧ ∀ m ∈ chain, m.start ≠ b

/-- a product is returned only if the graph conditions hold, and then the chain is the specified one, each
module is used at most once and the leftover is exactly the supplied modules outside the chain -/
theorem ok_sound {rc : O → O} {vUp vDown : O} {mods chain rest : List (GMod O)} (hid : SameObj mods)
    (h : gAssemble rc vUp vDown mods = .ok (chain, rest)) :
    vUp ≠ vDown ∧ StartFree mods ∧ NoRc rc mods ∧ Chain mods vDown chain vUp ∧ chain.Nodup ∧
    (∀ m, m ∈ rest ↔ m ∈ mods ∧ m ∉ chain) := by
  obtain ⟨hv, map, hb, hcl, hw⟩ := gAssemble_ok_iff.mp h
  obtain ⟨hn, hmem, hsf⟩ := gBuild_ok_sameObj hid hb
  obtain ⟨hperm, hns, hpath⟩ := ((gWalk_eq_iff (Nat.lt_succ_self _)).mp hw).spec
  obtain ⟨hkc, hcm, hr⟩ := keys_nodup_split hn hperm
  exact ⟨hv, hsf, (gRcClash_of_build rc hb).mp hcl, ⟨hpath, fun m hm => (hmem m).mp (hcm m hm), hkc, hns⟩,
    List.Nodup.of_map _ hkc, fun m => by rw [hr, hmem]⟩

/-- conversely, whenever the graph conditions hold a product is returned, with exactly that chain -/
theorem ok_complete {rc : O → O} {vUp vDown : O} {mods chain : List (GMod O)} (hid : SameObj mods)
    (hv : vUp ≠ vDown) (hsf : StartFree mods) (hrc : NoRc rc mods) (hc : Chain mods vDown chain vUp) :
    ∃ rest, gAssemble rc vUp vDown mods = .ok (chain, rest) := by
  obtain ⟨map, hb⟩ := (gBuild_ok_iff hid).mpr hsf
  obtain ⟨hn, hmem, _⟩ := gBuild_ok_sameObj hid hb
  obtain ⟨hpath, hin, hnd, hns⟩ := hc
  obtain ⟨rest, hw⟩ := Walk.of_path hn chain vDown hpath (fun m hm => (hmem m).mpr (hin m hm)) hnd hns
  exact ⟨rest, by rw [gAssemble_of_walk hv hb hw, (gRcClash_of_build rc hb).mpr hrc]; rfl⟩

/-- the three failure classes, with their precedence: a vector whose two overhangs coincide is rejected
first; otherwise duplicates (equal or reverse-complementary start overhangs) are reported; otherwise the
walk stalls at an overhang, different from the vector's upstream one, that no remaining module starts
with -/
theorem error_classes {rc : O → O} {vUp vDown : O} {mods : List (GMod O)} {e : GErr O} (hid : SameObj mods)
    (h : gAssemble rc vUp vDown mods = .error e) :
    (e = .invalidVector ∧ vUp = vDown) ∨
    (e = .duplicate ∧ vUp ≠ vDown ∧ (¬ StartFree mods ∨ ¬ NoRc rc mods)) ∨
    (∃ o chain, e = .missing o ∧ vUp ≠ vDown ∧ StartFree mods ∧ NoRc rc mods ∧ IsPath vDown chain o ∧
        o ≠ vUp ∧ (∀ m ∈ chain, m ∈ mods) ∧ ∀ m ∈ mods, m ∉ chain → m.start ≠ o) := by
  by_cases hv : vUp = vDown
  · rw [gAssemble, if_pos hv] at h
    cases h; exact Or.inl ⟨rfl, hv⟩
  cases hb : gBuild mods [] with
  | error e' =>
    rw [gAssemble, if_neg hv, hb] at h
    cases h; exact Or.inr (Or.inl ⟨(gBuild_error hb).1, hv, Or.inl (gBuild_error hb).2⟩)
  | ok map =>
    obtain ⟨hn, hmem, hsf⟩ := gBuild_ok_sameObj hid hb
    obtain ⟨c, r, s, hw⟩ := Walk.exists vUp vDown map
    rw [gAssemble_of_walk hv hb hw] at h
    by_cases hrc : NoRc rc mods
    · rw [(gRcClash_of_build rc hb).mpr hrc, if_neg Bool.false_ne_true] at h
      cases s with
      | none => cases h
      | some o =>
        cases h
        obtain ⟨hperm, _, hpath, hne, hrest⟩ := hw.spec
        obtain ⟨_, hcm, hr⟩ := keys_nodup_split hn hperm
        exact Or.inr (Or.inr ⟨o, c, rfl, hv, hsf, hrc, hpath, hne, fun m hm => (hmem m).mp (hcm m hm),
          fun m hm hnc => hrest m ((hr m).mpr ⟨(hmem m).mpr hm, hnc⟩)⟩)
    · rw [eq_true_of_ne_false (mt (gRcClash_of_build rc hb).mp hrc), if_pos rfl] at h
      cases h; exact Or.inr (Or.inl ⟨rfl, hv, Or.inr hrc⟩)

/-- **order independence**: permuting the argument list changes neither the outcome class, nor the chain,
nor the overhang at which a chain stalls; the leftover modules are the same up to order -/
theorem order_independent {rc : O → O} {vUp vDown : O} {mods mods' : List (GMod O)} (hp : mods.Perm mods')
    (hid : SameObj mods) :
    match gAssemble rc vUp vDown mods with
    | .ok (chain, rest) => ∃ rest', gAssemble rc vUp vDown mods' = .ok (chain, rest') ∧ rest.Perm rest'
    | .error e => gAssemble rc vUp vDown mods' = .error e := by
  by_cases hv : vUp = vDown
  · simp [gAssemble, hv]
  cases hb : gBuild mods [] with
  | error e =>
    cases hb' : gBuild mods' [] with
    | error e' => simp [gAssemble, hv, hb, hb', (gBuild_error hb).1, (gBuild_error hb').1]
    | ok map' =>
      exact absurd ((gBuild_ok_sameObj (hid.perm hp) hb').2.2.perm hp.symm) (gBuild_error hb).2
  | ok map =>
    obtain ⟨hn, _, hsf⟩ := gBuild_ok_sameObj hid hb
    obtain ⟨map', hb'⟩ := (gBuild_ok_iff (hid.perm hp)).mpr (hsf.perm hp)
    have hpm := gBuild_perm hp hid hb hb'
    obtain ⟨c, r, s, hw⟩ := Walk.exists vUp vDown map
    obtain ⟨r', hw', hr⟩ := hw.perm hn map' hpm
    rw [gAssemble_of_walk hv hb hw, gAssemble_of_walk hv hb' hw', gRcClash_congr rc fun m => hpm.mem_iff]
    cases gRcClash rc map' with
    | true => rfl
    | false =>
      cases s with
      | none => exact ⟨r', rfl, hr⟩
      | some o => rfl

/-- **a palindromic start overhang is always refused** — alone or in company: a module whose start overhang is
its own reverse complement never takes part in a product (it would ligate to itself) -/
theorem palindromic_start_refused {rc : O → O} {vUp vDown : O} {mods : List (GMod O)} {m : GMod O}
    (hm : m ∈ mods) (hp : rc m.start = m.start) : ∀ r, gAssemble rc vUp vDown mods ≠ .ok r := by
  rintro ⟨chain, rest⟩ h
  obtain ⟨_, map, hb, hcl, _⟩ := gAssemble_ok_iff.mp h
  exact (gRcClash_of_build rc hb).mp hcl m hm m hm hp.symm

/-! non-vacuity: a two-module chain over a toy alphabet; a palindromic start overhang is its own reverse
complement and is rejected; a missing partner stalls where expected -/
def rcTest : Nat → Nat := fun n => 100 - n

example : gAssemble rcTest 1 2 [⟨3, 1, 11⟩, ⟨2, 3, 10⟩, ⟨7, 8, 12⟩]
    = .ok ([⟨2, 3, 10⟩, ⟨3, 1, 11⟩], [⟨7, 8, 12⟩]) := by decide
example : gAssemble rcTest 1 2 [⟨2, 50, 10⟩, ⟨50, 1, 11⟩] = .error .duplicate := by decide
/-- a lone module whose palindromic start overhang closes the vector: still refused -/
example : gAssemble rcTest 1 50 [⟨50, 1, 10⟩] = .error .duplicate := by decide
example : gAssemble rcTest 1 2 [⟨2, 3, 10⟩] = .error (.missing 3) := by decide
example : gAssemble rcTest 1 1 [⟨2, 3, 10⟩] = .error .invalidVector := by decide
/-- a cycle that never reaches the vector: the popped key is missing the second time round -/
example : gAssemble rcTest 1 2 [⟨2, 3, 10⟩, ⟨3, 2, 11⟩] = .error (.missing 2) := by decide

end Moclo.C03
