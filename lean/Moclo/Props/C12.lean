import Moclo.Proofs.RevComp
import Moclo.Proofs.GenericReport
import Moclo.Props.C02
import Moclo.Proofs.AssembleRc
import Moclo.Proofs.AllRuns
import Moclo.Tables.Enzymes
/-!
# C12 — strand symmetry: reverse-complemented inputs give the reverse complement

Model: `rc` (`reverse_complement` on the sequence), `rcPattern`, `Run` (the matcher's fits),
`moduleStructure` / `vectorStructure`.

Proved for every geometry and every record:
* the generic module and vector structures are their own reverse complement (groups 1 and 3 exchanged);
* a structure fits a window of a circular record iff its reverse-complement pattern fits a window of the
  reverse-complemented record, consuming the reverse complement of the same letters, with mirrored group
  boundaries — hence for the generic structures: *occurs in `w` iff occurs in `rc w`*, and the text of group 1
  (resp. 3, 2) on one strand is the reverse complement of the text of group 3 (resp. 1, 2) on the other:
  overhangs exchanged and reverse-complemented, body reverse-complemented.
* the illegal-site screen counts the same number of valid cuts on both strands (`screen_rc`), and what a
  generic class reports about the reverse complement of a record is the mirror image of what it reports about
  the record (`report_rc`): same verdict, overhangs exchanged and reverse-complemented, target and
  placeholder reverse-complemented.
* `assemble_rc`: the lift through `assemble` — assembling the reverse complements succeeds along the reversed
  chain (`graph_rc`) and the product is, up to rotation and letter case, the reverse complement of the
  original product.  The duplicate screen of the implementation is *not* strand-symmetric when the vector's
upstream overhang clashes (known finding, DESIGN §8); the assembly-level statement needs "no reverse-
complementary pair among all junction overhangs".
-/
namespace Moclo.C12
open Moclo

/-- the generic structures read the same on both strands, for every enzyme geometry -/
theorem generic_structures_self_rc (g : Geom) :
    rcPattern (moduleStructure g) = moduleStructure g ∧ rcPattern (vectorStructure g) = vectorStructure g :=
  ⟨rcPattern_generic .module g, rcPattern_generic .vector g⟩

/-- the structures the classes are matched with *are* these closed forms, for every supported enzyme (as
`structure()` answers now: kernel-checked on the regenerated table) -/
theorem live_structures_self_rc : ∀ r ∈ Generated.enzymes, rcPattern r.modS = r.modS ∧ rcPattern r.vecS = r.vecS := by
  intro r hr
  obtain ⟨-, -, -, -, -, e, f, -⟩ := Tables.enzymes_spec hr
  rw [e, f]
  exact ⟨rcPattern_generic .module _, rcPattern_generic .vector _⟩

/-- a pattern fits a word exactly iff its reverse-complement pattern fits the reverse complement -/
theorem fits_rc (p : Pat) (xs : Word) (ms : List Nat) (h : Run p xs 0 ms xs.length) :
    Run (rcPattern p) (rc xs) 0 (ms.reverse.map (fun m => xs.length - m)) xs.length :=
  Run.rc_exact p xs ms h

/-- on the circle -/
theorem fits_rc_on_circle {p : Pat} {w : Word} {i : Nat} {ms : List Nat} {e : Nat} (hi : i < w.length)
    (h : Run p (window w i) 0 ms e) :
    ∃ j, j < w.length ∧ Run (rcPattern p) (window (rc w) j) 0 (ms.reverse.map (fun m => e - m)) e ∧
      (window (rc w) j).take e = rc ((window w i).take e) :=
  have ⟨j, hj, hr, hwin, he⟩ := fits_rc_circular_window hi h
  ⟨j, hj, hr, by rw [hwin, List.take_left' (by simp [window_length w i (Nat.le_of_lt hi), he])]⟩

theorem occurs_rc {p : Pat} {w : Word} (h : ∃ i ms e, i < w.length ∧ Run p (window w i) 0 ms e) :
    ∃ j ms e, j < (rc w).length ∧ Run (rcPattern p) (window (rc w) j) 0 ms e := by
  obtain ⟨i, ms, e, hi, h⟩ := h
  obtain ⟨j, hj, hr, _⟩ := fits_rc_circular_window hi h
  exact ⟨j, _, e, by rwa [rc_length], hr⟩

/-- **a generic module / vector structure occurs in a record iff it occurs in its reverse complement** -/
theorem generic_occurs_iff (kind : Kind) (g : Geom) (w : Word) :
    (∃ i ms e, i < w.length ∧ Run (genericStructure kind g) (window w i) 0 ms e) ↔
    (∃ j ms e, j < (rc w).length ∧ Run (genericStructure kind g) (window (rc w) j) 0 ms e) := by
  have hself := rcPattern_generic kind g
  constructor
  · intro h; simpa only [hself] using occurs_rc h
  · intro h; simpa only [hself, rc_rc] using occurs_rc h

/-- **overhangs exchanged and reverse-complemented, body reverse-complemented**: for a fit consuming the
word `A` with group boundaries `[a1,b1,a2,b2,a3,b3]`, the mirrored fit on `rc A` has boundaries
`[L-b3, L-a3, L-b2, L-a2, L-b1, L-a1]`, and the text of each mirrored group is the reverse complement of the
text of the group it mirrors -/
theorem mirrored_group_text (A : Word) (a b : Nat) (hab : a ≤ b) (hb : b ≤ A.length) :
    slice (rc A) (A.length - b) (A.length - a) = rc (slice A a b) := slice_rc A a b hab

theorem mirrored_marks (a1 b1 a2 b2 a3 b3 L : Nat) :
    ([a1, b1, a2, b2, a3, b3].reverse.map (fun m => L - m)) = [L - b3, L - a3, L - b2, L - a2, L - b1, L - a1] := rfl

/-- **the illegal-site screen is strand-symmetric** for every non-palindromic site -/
theorem screen_rc (g : Geom) (T : Word) (hnp : g.site ≠ rcNt g.site) (hs : 1 ≤ g.site.length) :
    validCuts g (rc T) = validCuts g T := validCuts_rc g T hnp hs

/-- every supported enzyme meets the hypotheses of `screen_rc` (kernel-checked on the regenerated table) -/
theorem live_sites_nonpalindromic : ∀ r ∈ Generated.enzymes, r.site ≠ rcNt r.site ∧ 1 ≤ r.site.length :=
  fun _ hr => ⟨(Tables.sites_spec Tables.enzymes_sites hr).2, (Tables.enzymes_spec hr).2.2.1⟩

/-- what a generic class reports, in terms of the three captured groups `a`, `b`, `c` and (vectors) the
backbone `B` outside the overhangs -/
def shape (kind : Kind) (a b c B : Word) : Word × Word × Word × Word :=
  match kind with
  | .module => (a, c, a ++ b, a ++ b)
  | .vector => (c, a, c ++ B, a ++ b)

/-- **strand symmetry of typing**: a record that carries the generic structure exactly once on each strand
is accepted on one strand iff on the other (same screen verdict), and what is reported about the reverse
complement is the mirror image: groups 1 and 3 exchanged and reverse-complemented, group 2 and the backbone
reverse-complemented — so upstream and downstream overhangs are swapped and reverse-complemented -/
theorem report_rc (kind : Kind) (g : Geom) (w : Word) (hnp : g.site ≠ rcNt g.site) (hs : 1 ≤ g.site.length)
    (hu : UniqueFit (genericStructure kind g) w) (hu' : UniqueFit (genericStructure kind g) (rc w)) :
    (C02.report { kind := kind, pat := genericStructure kind g, geom := g } w = .error .illegal ∧
     C02.report { kind := kind, pat := genericStructure kind g, geom := g } (rc w) = .error .illegal) ∨
    ∃ a b c B,
      C02.report { kind := kind, pat := genericStructure kind g, geom := g } w = .ok (shape kind a b c B) ∧
      C02.report { kind := kind, pat := genericStructure kind g, geom := g } (rc w)
        = .ok (shape kind (rc c) (rc b) (rc a) (rc B)) := by
  have ⟨i, ms, e, hi, hr, _⟩ := hu
  obtain ⟨a1, b2, rfl, -⟩ := cutAligned_sound (cutAligned_generic kind g) hr
  obtain ⟨P0, G1, G2, G3, P4, R, h1, h2⟩ := report_rc_parts
    (c := { kind := kind, pat := genericStructure kind g, geom := g }) (C02.generic_three_groups kind g)
    (rcPattern_generic kind g) hnp hs hu hu' hi hr
  rw [h1, h2]
  by_cases hc : validCuts g (P0 ++ G1 ++ G2 ++ G3 ++ P4) > 2
  · exact Or.inl ⟨if_pos hc, if_pos hc⟩
  · refine Or.inr ⟨G1, G2, G3, P4 ++ R ++ P0, ?_, ?_⟩ <;> rw [if_neg hc] <;> cases kind <;>
      simp only [shape, rc_append, List.append_assoc]

/-- hence the verdict is the same on both strands -/
theorem valid_rc (kind : Kind) (g : Geom) (w : Word) (hnp : g.site ≠ rcNt g.site) (hs : 1 ≤ g.site.length)
    (hu : UniqueFit (genericStructure kind g) w) (hu' : UniqueFit (genericStructure kind g) (rc w)) :
    (C02.report { kind := kind, pat := genericStructure kind g, geom := g } w).toOption.isSome =
    (C02.report { kind := kind, pat := genericStructure kind g, geom := g } (rc w)).toOption.isSome := by
  rcases report_rc kind g w hnp hs hu hu' with ⟨h1, h2⟩ | ⟨a, b, c, B, h1, h2⟩
  · rw [h1, h2]
  · rw [h1, h2]; rfl

/-- what an entity reports determines its place in the overhang graph and the fragment it contributes -/
theorem ent_of_report {e : Ent} {u d t ph : Word} (h : C02.report e.spec e.rcd.seq = .ok (u, d, t, ph)) :
    e.gmod = .ok ⟨upperW u, upperW d, e.oid⟩ ∧ e.fragment = t := by
  unfold Ent.fragment
  rw [C02.gmod_eq_report, C02.fragmentOf_eq_report, h]
  exact ⟨rfl, rfl⟩

/-- the graph of the other strand (C03's walk on flipped modules) -/
theorem graph_rc {O : Type} [DecidableEq O] {rcO : O → O} (hinv : ∀ x, rcO (rcO x) = x) {vUp vDown : O}
    {mods chain : List (GMod O)} (hid : SameObj mods) (h : gAssemble rcO vUp vDown mods = .ok (chain, []))
    (hJ : ∀ m ∈ mods, ∀ m' ∈ mods, m'.stop ≠ rcO m.stop) :
    gAssemble rcO (rcO vDown) (rcO vUp) (mods.map (GMod.flip rcO)) = .ok (chain.reverse.map (GMod.flip rcO), []) :=
  gAssemble_rc hinv hid h hJ

/-- a generic entity (module or vector over a non-palindromic site) and its reverse complement, each carrying
the structure exactly once -/
structure Twin (kind : Kind) (e e' : Ent) : Prop where
  geom : ∃ g : Geom, e.spec = { kind := kind, pat := genericStructure kind g, geom := g } ∧
    g.site ≠ rcNt g.site ∧ 1 ≤ g.site.length
  spec : e'.spec = e.spec
  oid : e'.oid = e.oid
  seq : e'.rcd.seq = rc e.rcd.seq
  fit : UniqueFit e.spec.pat e.rcd.seq
  fit' : UniqueFit e.spec.pat (rc e.rcd.seq)

theorem Twin.reports {kind : Kind} {e e' : Ent} (h : Twin kind e e') {ge : GMod Word} (hv : e.gmod = .ok ge) :
    ∃ a b c B, C02.report e.spec e.rcd.seq = .ok (shape kind a b c B) ∧
      C02.report e'.spec e'.rcd.seq = .ok (shape kind (rc c) (rc b) (rc a) (rc B)) := by
  obtain ⟨g, hspec, hnp, hs⟩ := h.geom
  have hf := h.fit; have hf' := h.fit'
  rw [hspec] at hf hf'
  have hr := report_rc kind g e.rcd.seq hnp hs hf hf'
  rw [← hspec] at hr
  rw [h.spec, h.seq]
  rcases hr with ⟨h1, _⟩ | hr
  · rw [C02.gmod_eq_report, h1] at hv
    cases hv
  · exact hr

theorem modRc_of_twin {e e' : Ent} (h : Twin .module e e') {ge : GMod Word} (hv : e.gmod = .ok ge) :
    ∃ a b c, ModRc e e' a b c := by
  obtain ⟨a, b, c, B, h1, h2⟩ := h.reports hv
  obtain ⟨g1, f1⟩ := ent_of_report h1
  obtain ⟨g2, f2⟩ := ent_of_report h2
  exact ⟨a, b, c, ⟨g1, f1, by rw [g2, h.oid], f2, h.oid⟩⟩

theorem vecRc_of_twin {v v' : Ent} (h : Twin .vector v v') {gv : GMod Word} (hv : v.gmod = .ok gv) :
    ∃ a c B, VecRc v v' a c B := by
  obtain ⟨a, b, c, B, h1, h2⟩ := h.reports hv
  obtain ⟨g1, f1⟩ := ent_of_report h1
  obtain ⟨g2, f2⟩ := ent_of_report h2
  exact ⟨a, c, B, ⟨g1, f1, by rw [g2, h.oid], f2⟩⟩

/-- **assembling the reverse complements yields the reverse complement**: let an assembly of generic
entities succeed using every supplied module (distinct objects), each record carrying its structure exactly
once on each strand, and let no two downstream overhangs be reverse complements of each other (the hypothesis
the implementation's one-sided duplicate screen needs — known finding F11).  Then assembling the reverse
complements of the vector and of all the modules succeeds, and its product is, up to rotation and letter case,
the reverse complement of the original product -/
theorem assemble_rc {v v' : Ent} {mods mods' : List Ent} {pid pname : Nat} {p : Product} {after : List Rec}
    (h : assemble v mods pid pname = (.ok p, after)) (hun : p.unused = [])
    (hoid : (mods.map (·.oid)).Nodup)
    (hv : Twin .vector v v') (hm : List.Forall₂ (Twin .module) mods mods')
    (hd : ∀ e ∈ mods', (derefRec e.rcd).isSome) (hdv : (derefRec v'.rcd).isSome)
    (hf : ∀ e ∈ mods', e.faulty = false) (hvf : v'.faulty = false)
    (hJ : ∀ e ∈ mods, ∀ e2 ∈ mods, ∀ g g2, e.gmod = .ok g → e2.gmod = .ok g2 → g2.stop ≠ rc g.stop) :
    ∃ p', (assemble v' mods' pid pname).1 = .ok p' ∧ ∃ r, NtEq p'.rcd.seq ((rc p.rcd.seq).rotate r) := by
  obtain ⟨gv, gs, _, _, _, h1, _, h3, _⟩ := assemble_ok h
  obtain ⟨av, cv, B, hvr⟩ := vecRc_of_twin hv h1
  have hF := (evalPrefix_ok_iff mods gs).mp h3
  -- every supplied module has a place in the graph, so the screen has not rejected it
  have hok : ∀ e ∈ mods, ∃ g, e.gmod = .ok g := fun e he =>
    let ⟨g, _, hg⟩ := hF.flip.exists_of_mem_right e he; ⟨g, hg⟩
  have hm' := ((List.forall₂_and_left _ _).mpr ⟨hok, hm⟩).imp fun _ _ ⟨⟨_, hg⟩, ht⟩ => modRc_of_twin ht hg
  exact assemble_rc_twins h hun hoid hvr hm' hd hdv hf hvf hJ

/-- the "exactly one fit" hypotheses are checkable by computation (`allFits` enumerates every fit; the
correspondence op `FITS` compares the enumeration with Python's `re`) -/
theorem unique_fit_checkable {p : Pat} {w : Word} (h : (allFits p w).length = 1 ∧ (allFits p (rc w)).length = 1) :
    UniqueFit p w ∧ UniqueFit p (rc w) := ⟨uniqueFit_of_count h.1, uniqueFit_of_count h.2⟩

/-! non-vacuity of `report_rc` / `Twin`: the example module carries its structure exactly once on each strand -/
example : UniqueFit C02.c.pat C02.w ∧ UniqueFit C02.c.pat (rc C02.w) := unique_fit_checkable (by decide +kernel)

/-! non-vacuity: the example module of `Moclo.C02` is accepted on both strands, with one fit on each, and the
overhangs come out exchanged and reverse-complemented -/
example : ((List.range C02.w.length).filter (fun i => (relMatch C02.c.pat (window (rc C02.w) i)).isSome)).length = 1 := by decide +kernel
example : (C02.report C02.c C02.w).map (fun r => (r.1, r.2.1)) = .ok ([⟨.A, false⟩, ⟨.C, false⟩], [⟨.C, false⟩, ⟨.A, false⟩]) ∧
    (C02.report C02.c (rc C02.w)).map (fun r => (r.1, r.2.1)) = .ok ([⟨.T, false⟩, ⟨.G, false⟩], [⟨.G, false⟩, ⟨.T, false⟩]) := by decide +kernel
example : rcPattern (moduleStructure ⟨[.G, .G, .T, .C, .T, .C], 1, 4⟩) = moduleStructure ⟨[.G, .G, .T, .C, .T, .C], 1, 4⟩ := by
  decide

end Moclo.C12
