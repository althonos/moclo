import Moclo.Proofs.Report
import Moclo.Proofs.Flank
import Moclo.Proofs.SameRole
import Moclo.Tables.Kits
/-!
# C02 — a plasmid has no origin: typing and assembly are rotation-invariant

Model: `ClassSpec.matchSeq` (circular search + illegal-site screen), `Match.group` (`SeqMatch.group`),
`targetWord` (`target_sequence`), placeholder — gathered in `report` (`Proofs/Report.lean`) — and `assemble`.

`UniqueStart p w`: the record contains exactly one occurrence of the class's structure — exactly one start
below the length at which the pattern fits the one-turn window.  `ThreeGroups p`: the pattern records the
three capture groups every MoClo structure has (kernel-checked for all kit classes, true by construction
for the generic ones).  The theorems hold for **any** pattern of the supported fragment, hence for every kit
and user-defined class, and for every rotation amount — in particular those that place the origin inside a
recognition site, an overhang or the target.
-/
namespace Moclo.C02
open Moclo

/-- **rotation invariance of typing**: for a record with exactly one occurrence of the class's structure,
rotating by any amount changes neither the verdict (accepted, invalid, illegal site) nor the overhangs, the
target or the placeholder -/
theorem report_rotr (c : ClassSpec) (w : Word) (k : Nat) (h3 : ThreeGroups c.pat) (hu : UniqueStart c.pat w) :
    report c (rotr w k) = report c w := by
  obtain ⟨i, rel, hi, hrel, hs, hs', hwin⟩ := search_rotr k hu
  rw [report_of_view h3 hi hrel hs,
    report_of_view h3 (by rw [rotr_length]; exact Nat.mod_lt _ (by omega)) (hwin ▸ hrel) hs', hwin]

/-- … for every integer amount, and in both directions -/
theorem report_rotrI (c : ClassSpec) (w : Word) (k : Int) (h3 : ThreeGroups c.pat) (hu : UniqueStart c.pat w) :
    report c (rotrI w k) = report c w ∧ report c (rotlI w k) = report c w := by
  unfold rotlI rotrI
  exact ⟨report_rotr c w _ h3 hu, report_rotr c w _ h3 hu⟩

/-- a record without any occurrence is rejected at every rotation -/
theorem invalid_rotr (c : ClassSpec) (w : Word) (k : Nat) (hn : 0 < w.length)
    (h : ∀ j, j < w.length → relMatch c.pat (window w j) = none) :
    report c (rotr w k) = .error .invalid ∧ report c w = .error .invalid := by
  unfold report ClassSpec.matchSeq
  rw [search_rotr_none k h, search_circ_none h]
  exact ⟨rfl, rfl⟩

/-- the verdict alone -/
theorem isValid_rotr (c : ClassSpec) (w : Word) (k : Nat) (h3 : ThreeGroups c.pat) (hu : UniqueStart c.pat w) :
    c.isValid (rotr w k) = c.isValid w := by
  rw [isValid_eq_report, isValid_eq_report, report_rotr c w k h3 hu]

/-- the fragment an input contributes to an assembly, and the overhang keys the assembly graph is built
from, are therefore the same: **rotating any input leaves the product literally unchanged** (C01 gives the
product as the concatenation of these fragments along the chain the keys define) -/
theorem fragment_and_keys_rotr (c : ClassSpec) (w : Word) (k : Nat) (h3 : ThreeGroups c.pat)
    (hu : UniqueStart c.pat w) :
    fragmentOf c (rotr w k) = fragmentOf c w ∧
    (c.matchSeq (rotr w k)).map (fun m => (upperW (m.group (rotr w k) c.upGroup), upperW (m.group (rotr w k) c.downGroup)))
      = (c.matchSeq w).map (fun m => (upperW (m.group w c.upGroup), upperW (m.group w c.downGroup))) := by
  rw [fragmentOf_eq_report, fragmentOf_eq_report, keys_eq_report, keys_eq_report, report_rotr c w k h3 hu]
  exact ⟨rfl, rfl⟩

/-- rotating a record does not touch citation entries: it dereferences iff the original does -/
theorem derefRec_rotr_isSome (r : Rec) (k : Int) : (derefRec (r.rotr k)).isSome = (derefRec r).isSome := by
  rw [Bool.eq_iff_iff, derefRec_isSome_iff, derefRec_isSome_iff, Rec.rotr_refs, Rec.rotr_feats]
  split
  · rfl
  · simp only [List.forall_mem_map, Feature.rotr_cites]

/-- an input and a rotation of it -/
structure Rotated (e e' : Ent) : Prop where
  oid : e'.oid = e.oid
  spec : e'.spec = e.spec
  faulty : e'.faulty = e.faulty
  rot : ∃ k : Int, e'.rcd = e.rcd.rotr k
  three : ThreeGroups e.spec.pat
  unique : UniqueStart e.spec.pat e.rcd.seq

/-- a rotated input plays the same role in every assembly -/
theorem sameRole_of_rotated {e e' : Ent} (h : Rotated e e') : SameRole e e' := by
  obtain ⟨k, hk⟩ := h.rot
  have hrep : report e'.spec e'.rcd.seq = report e.spec e.rcd.seq := by
    rw [h.spec, hk, Rec.rotr_seq]; exact report_rotr _ _ _ h.three h.unique
  refine ⟨h.oid, ?_, h.faulty, hk ▸ derefRec_rotr_isSome _ _, ?_⟩
  · rw [gmod_eq_report, gmod_eq_report, hrep, h.oid]
  · rw [Ent.fragment, Ent.fragment, fragmentOf_eq_report, fragmentOf_eq_report, hrep]

/-- **rotation invariance of assembly**: if an assembly succeeds, the assembly of any rotations of the vector
and of the modules (each carrying its structure once) succeeds too, with literally the same product sequence
and the same unused modules — wherever the origins are -/
theorem assembly_rotation_invariant {v v' : Ent} {mods mods' : List Ent} {pid pname : Nat} {p : Product}
    {after : List Rec} (h : assemble v mods pid pname = (.ok p, after)) (hv : Rotated v v')
    (hm : List.Forall₂ Rotated mods mods') :
    ∃ p', (assemble v' mods' pid pname).1 = .ok p' ∧ p'.rcd.seq = p.rcd.seq ∧ p'.unused = p.unused :=
  assemble_sameRole h (sameRole_of_rotated hv) (hm.imp (fun _ _ hr => sameRole_of_rotated hr))

/-- … and when the assembly fails, the assembly of the rotated inputs fails with the same error: the whole
outcome is rotation-invariant -/
theorem assembly_rotation_invariant_outcome {v v' : Ent} {mods mods' : List Ent} (pid pname : Nat)
    (hv : Rotated v v') (hm : List.Forall₂ Rotated mods mods') :
    OutcomeSame (assemble v mods pid pname).1 (assemble v' mods' pid pname).1 :=
  assemble_sameRole_outcome pid pname (sameRole_of_rotated hv) (hm.imp (fun _ _ hr => sameRole_of_rotated hr))

/-- the hypothesis `ThreeGroups` holds for every concrete class of the five kits (as their structures are
now: kernel-checked on the regenerated table) and for every generic and signature-typed structure -/
theorem kit_classes_three_groups : ∀ r ∈ Generated.kits, ThreeGroups r.pat := by
  intro r hr
  have := List.all_eq_true.mp Tables.kits_three_groups r hr
  unfold ThreeGroups; simp at this; omega

theorem generic_three_groups (kind : Kind) (g : Geom) : ThreeGroups (genericStructure kind g) :=
  C05.generic_eq kind g ▸ threeGroup_three_groups ..

theorem part_three_groups (kind : Kind) (g : Geom) (u d : List Nt) : ThreeGroups (partStructure kind g u d) :=
  C05.part_eq kind g u d ▸ threeGroup_three_groups ..

/-! non-vacuity: the module of `Moclo.C01`'s example has a unique start, and at the rotation that puts
the origin inside the upstream overhang the same overhangs and target are reported -/
section example_
def g : Geom := { site := [.G, .A], off := 1, k := 2 }
def c : ClassSpec := { kind := .module, pat := moduleStructure g, geom := g }
def w : Word := [.G,.A,.C,.A,.C,.A,.A,.A,.C,.A,.C,.T,.C,.G,.G].map (fun n => ⟨n, false⟩)
example : ThreeGroups c.pat := by unfold ThreeGroups; decide
example : ((List.range w.length).filter (fun i => (relMatch c.pat (window w i)).isSome)) = [0] := by decide +kernel
example : report c (rotr w 11) = report c w ∧ (report c w).toOption.isSome := by decide +kernel
end example_

end Moclo.C02
