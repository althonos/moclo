import Moclo.Proofs.Feature
import Moclo.Proofs.Layout
/-!
# C08 — annotations are inherited faithfully by the assembled plasmid

Model: `Rec.rotl` / `Feature.rotr` (`record << start`), `Rec.slice` (Biopython's raw-coordinate test
`start ≤ f.start ∧ f.end ≤ stop` and shift), `Rec.append` (shift by the length of what precedes),
`addSource`.  A *well-formed* part (`Part.WF n`): `-n < s < n`, `s < e ≤ s + n`, `0 < e` — what GenBank
locations are and what `>>`, `<<`, `reverse_complement` keep producing (theorems `wf_rotr`, `wf_flip`).

The theorems show that Biopython's test on raw, unnormalised coordinates coincides with containment of the
denoted nucleotides (positions modulo `n`) in the retained fragment once the record is rotated to the cut, and
that the kept feature denotes exactly the shifted nucleotides.  `product_is_concatenation_of_targets` ties
these per-feature facts to `assemble`: citations aside, the product record *is* the concatenation of the
targets of the supplied records (dereferencing and re-referencing touch citation entries only).
-/
namespace Moclo.C08
open Moclo

/-- well-formed part of a record of length `n` -/
def Part.WF (n : Nat) (p : Part) : Prop := -(n : Int) < p.s ∧ p.s < n ∧ p.s < p.e ∧ p.e ≤ p.s + n ∧ 0 < p.e

/-- rotation by any amount keeps parts well formed: when renormalisation acts it brings the start to its
residue, which lies in `[0, n)`, and keeps the length -/
theorem Part.WF.rotr {n : Nat} {p : Part} (h : Part.WF n p) (k : Nat) : Part.WF n ((p.shift k).renorm n) := by
  unfold Part.WF at h ⊢
  by_cases hc : (p.shift k).e ≥ n ∧ (p.shift k).s ≥ n
  · have h0 := Int.emod_nonneg (p.shift k).s (show (n : Int) ≠ 0 by omega)
    have h1 := Int.emod_lt_of_pos (p.shift k).s (show (0 : Int) < n by omega)
    rw [Part.renorm_of_ge hc]
    simp only [Part.shift] at hc h0 h1 ⊢
    omega
  · rw [Part.renorm, if_neg hc]
    simp only [Part.shift] at hc ⊢
    omega

theorem wf_rotr (n k : Nat) (p : Part) (hk : k < n) (h : Part.WF n p) : Part.WF n ((p.shift k).renorm n) :=
  h.rotr k

/-- … and so does reverse complement -/
theorem wf_flip (n : Nat) (p : Part) (h : Part.WF n p) : Part.WF n (p.flip n) := by
  unfold Part.WF at h ⊢
  simp only [Part.flip]
  omega

/-- GenBank locations are well formed -/
theorem wf_genbank (n : Nat) (s e : Nat) (st : Int) (h1 : s < e) (h2 : e ≤ n) : Part.WF n ⟨s, e, st⟩ := by
  simp only [Part.WF]
  omega

/-- **the raw-coordinate test is containment of the denoted nucleotides**: for a well-formed part of a record
of length `n` and a fragment `[0, L)` strictly shorter than the record, Biopython's `0 ≤ start ∧ end ≤ L`
holds exactly when every nucleotide the part denotes lies in the fragment -/
theorem part_inside_iff (n L : Nat) (p : Part) (hL : L < n) (h : Part.WF n p) :
    (0 ≤ p.s ∧ p.e ≤ L) ↔ ∀ x, x < n → p.covers n x → x < L := by
  obtain ⟨h1, h2, h3, h4, h5⟩ := h
  constructor
  · rintro ⟨a, b⟩ x _ hc
    have := (covers_of_inside n p x a (by omega)).mp hc
    omega
  · intro hall
    -- a part that starts below 0 covers `n - 1`; one that ends beyond `L` covers `L` or, starting beyond `L`, its start
    have wit : ∀ (t q : Int) (x : Nat), x < n → t = x + n * q → p.s ≤ t → t < p.e → x < L :=
      fun t q x hx e a b => hall x hx ((covers_iff n p x hx).mpr ⟨q, e ▸ a, e ▸ b⟩)
    have hs : 0 ≤ p.s := by
      by_contra hc
      have := wit (-1) (-1) (n - 1) (by omega) (by omega) (by omega) (by omega)
      omega
    refine ⟨hs, ?_⟩
    by_contra hc
    by_cases hsl : p.s ≤ L
    · have := wit L 0 L hL (by omega) hsl (by omega)
      omega
    · have := wit p.s 0 p.s.toNat (by omega) (by omega) (Int.le_refl _) h3
      omega

/-- a feature is kept by the slice `[0, L)` iff each of its parts lies inside — never truncated -/
theorem feature_kept_iff (f : Feature) (L : Nat) (hne : f.parts ≠ []) :
    ((0 : Int) ≤ f.lo ∧ f.hi ≤ (L : Int)) ↔ ∀ p ∈ f.parts, 0 ≤ p.s ∧ p.e ≤ L := by
  unfold Feature.lo Feature.hi
  rw [minI_ge (by simpa using hne), maxI_le (by simpa using hne)]
  simp only [List.mem_map, forall_exists_index, and_imp, forall_apply_eq_imp_iff₂]
  exact forall₂_and.symm

/-- **faithful transport of one part**: let the record (length `n`) be rotated so that the retained
fragment is `[0, L)`, `L < n` (`k` = the right-rotation amount), then sliced and placed at offset `o` of a
product of length `N ≥ o + L`.  For a well-formed part:
* it is kept iff every nucleotide it denoted, seen after the rotation, lies in the fragment;
* when kept, the product part `[s + k + o, e + k + o)` (after renormalisation) denotes exactly the images
  `o + ((x + k) mod n)` of the nucleotides `x` it denoted, on the same strand. -/
theorem part_transport (n k L o N : Nat) (p : Part) (hk : k < n) (hL : L < n) (hN : o + L ≤ N) (h : Part.WF n p) :
    let q := (p.shift k).renorm n
    ((0 ≤ q.s ∧ q.e ≤ L) ↔ ∀ x, x < n → p.covers n x → (x + k) % n < L) ∧
    ((0 ≤ q.s ∧ q.e ≤ L) → (q.shift o).strand = p.strand ∧
      ∀ y, y < N → ((q.shift o).covers N y ↔ ∃ x, x < n ∧ p.covers n x ∧ y = o + (x + k) % n)) := by
  intro q
  have hn : 0 < n := by omega
  have him : ∀ y, q.covers n y ↔ ∃ x, x < n ∧ p.covers n x ∧ (x + k) % n = y :=
    fun y => covers_rotr_image n k p y hn
  constructor
  · rw [part_inside_iff n L q hL (h.rotr k)]
    constructor
    · intro hall x hx hc
      exact hall _ (Nat.mod_lt _ hn) ((him _).mpr ⟨x, hx, hc, rfl⟩)
    · intro hall y _ hy
      obtain ⟨x, hx, hc, rfl⟩ := (him y).mp hy
      exact hall x hx hc
  · rintro ⟨a, b⟩
    obtain ⟨r, hr⟩ := Part.rotr_eq_shift n k p
    refine ⟨by rw [show q = _ from hr]; rfl, fun y _ => ?_⟩
    -- `q` lies inside the record and `q.shift o` inside the product: each denotes its own coordinates
    have hq : ∀ y', q.covers n y' ↔ q.s ≤ y' ∧ y' < q.e := fun y' => covers_of_inside n q y' a (by omega)
    rw [covers_of_inside N (q.shift o) y (by simp only [Part.shift]; omega) (by simp only [Part.shift]; omega)]
    simp only [Part.shift]
    constructor
    · intro hy
      obtain ⟨x, hx, hc, e⟩ := (him (y - o)).mp ((hq _).mpr (by omega))
      exact ⟨x, hx, hc, by omega⟩
    · rintro ⟨x, hx, hc, rfl⟩
      have := (hq _).mp ((him _).mpr ⟨x, hx, hc, rfl⟩)
      omega

/-- features overlapping a discarded region are dropped, never truncated or shifted: the slice either keeps a
feature with all its parts (shifted as a whole) or not at all -/
theorem slice_all_or_nothing (r : Rec) (a b : Nat) :
    ∀ f' ∈ (r.slice a b).feats, ∃ f ∈ r.feats, f' = f.shift (-(a : Int)) ∧ (a : Int) ≤ f.lo ∧ f.hi ≤ (b : Int) := by
  intro f' hf'
  simp only [Rec.slice, List.mem_map, List.mem_filter, decide_eq_true_eq] at hf'
  obtain ⟨f, ⟨hf, hc⟩, rfl⟩ := hf'
  exact ⟨f, hf, rfl, hc⟩

/-- type, qualifiers and citations are carried untouched by every step of the pipeline -/
theorem attributes_carried (n k : Nat) (d : Int) (f : Feature) :
    ((f.rotr n k).shift d).ftype = f.ftype ∧ ((f.rotr n k).shift d).qual = f.qual ∧
    ((f.rotr n k).shift d).cites = f.cites :=
  ⟨f.rotr_ftype n k, f.rotr_qual n k, f.rotr_cites n k⟩

/-- every feature of the concatenated product comes from exactly one fragment record, shifted by the total
length of the fragments before it (conversely every feature of every fragment record is there): nothing is
invented, nothing is lost at this step -/
theorem product_features (ts : List Rec) :
    (ts.foldl Rec.append ⟨0, [], [], []⟩).feats =
      ((ts.zip (offsets 0 ts)).map (fun p => p.1.feats.map (Feature.shift p.2))).flatten := by
  simpa using foldl_append_feats ts ⟨0, [], [], []⟩

theorem rerefRec_erase (r : Rec) : (rerefRec r).erase = r.erase := by
  simp only [Rec.erase, rerefRec_feats, List.map_map]
  rfl

/-- **end to end**: whenever `assemble` returns a product, then — citations aside — the product record is
exactly the concatenation of the targets of the chain's modules (the *supplied* records, each with its own
match) followed by the target of the vector: sequence, and every feature with its type, qualifiers, strand
and coordinates.  Each target is `(record << start)[…]` plus its generated `source` feature, so
`slice_all_or_nothing`, `attributes_carried` and `part_transport` apply to every feature of the product:
nothing is invented, nothing inside a fragment is lost, nothing is truncated -/
theorem product_is_concatenation_of_targets {v : Ent} {mods : List Ent} {pid pname : Nat} {p : Product}
    {after : List Rec} (h : assemble v mods pid pname = (.ok p, after)) :
    ∃ (srcs : List (Ent × Match)) (mv : Match),
      (∀ s ∈ srcs, s.1 ∈ mods ∧ s.1.spec.matchSeq s.1.rcd.seq = .ok s.2) ∧
      v.spec.matchSeq v.rcd.seq = .ok mv ∧
      p.rcd.erase =
        { ((srcs.map (fun s => (s.1.spec.targetOf s.1.rcd s.2).erase) ++ [(v.spec.targetOf v.rcd mv).erase]).foldl
            Rec.append ⟨0, [], [], []⟩) with rid := pid } := by
  obtain ⟨_, _, _, _, ts, vt, mv, _, _, _, hts, hvt, hp⟩ := product_layout h
  obtain ⟨srcs, hs⟩ := (List.exists_forall₂_iff
      (R := fun t (s : Ent × Match) => s.1 ∈ mods ∧ TargetOfInput s.1 s.2 t)).mpr
    fun t ht => (hts.exists_of_mem_right t ht).elim fun _ ⟨_, e, m, he, hm⟩ => ⟨(e, m), List.mem_of_find?_eq_some he, hm⟩
  refine ⟨srcs, mv, fun s hs' => ?_, hvt.1, ?_⟩
  · obtain ⟨t, _, hst⟩ := hs.exists_of_mem_right s hs'
    exact ⟨hst.1, hst.2.1⟩
  · have hcat := foldl_append_erase (ts ++ [vt]) ⟨0, [], [], []⟩
    rw [List.map_append, List.map_singleton, (hs.imp fun t s h => h.2.erase).map_eq, hvt.erase] at hcat
    rw [hp, rerefRec_erase]
    exact congrArg (fun r : Rec => { r with rid := pid }) hcat

/-- … unrolled: the product's features (citations aside) are, in order, the features of those targets, each
shifted by the total length of the fragments before it -/
theorem product_features_unrolled {v : Ent} {mods : List Ent} {pid pname : Nat} {p : Product}
    {after : List Rec} (h : assemble v mods pid pname = (.ok p, after)) :
    ∃ (srcs : List (Ent × Match)) (mv : Match),
      (∀ s ∈ srcs, s.1 ∈ mods ∧ s.1.spec.matchSeq s.1.rcd.seq = .ok s.2) ∧
      v.spec.matchSeq v.rcd.seq = .ok mv ∧
      (let ts := srcs.map (fun s => (s.1.spec.targetOf s.1.rcd s.2).erase) ++ [(v.spec.targetOf v.rcd mv).erase]
       p.rcd.feats.map Feature.erase =
         ((ts.zip (offsets 0 ts)).map (fun q => q.1.feats.map (Feature.shift q.2))).flatten ∧
       p.rcd.seq = (ts.map (·.seq)).flatten) := by
  obtain ⟨srcs, mv, h1, h2, h3⟩ := product_is_concatenation_of_targets h
  exact ⟨srcs, mv, h1, h2, (congrArg Rec.feats h3).trans (product_features _),
    (congrArg Rec.seq h3).trans (foldl_append_seq _ _)⟩

/-- the features of a target: the features of the rotated record that lie wholly inside the retained
stretch, shifted to its start, followed by the generated `source` feature -/
theorem target_features (c : ClassSpec) (r : Rec) (m : Match) :
    ∃ a b : Nat, (c.targetOf r m).feats =
      (((r.rotl ((m.span 1).1 : Nat)).feats.filter (fun f => decide ((a : Int) ≤ f.lo ∧ f.hi ≤ (b : Int)))).map
        (Feature.shift (-(a : Int)))) ++ [sourceFeature r.rid (c.targetOf r m).seq.length] := by
  unfold ClassSpec.targetOf addSource
  cases c.kind
  · exact ⟨0, (m.span 2).2 - (m.span 1).1, rfl⟩
  · exact ⟨(m.span 2).2 - (m.span 1).1, r.seq.length, rfl⟩

/-! non-vacuity: a 10-mer whose fragment is `[0,4)` after rotating right by 3; the origin-spanning part
`[8, 11)` (positions 8, 9, 0) becomes `[1, 4)` and is kept; `[6, 9)` becomes `[9, 12)` and is dropped -/
example : (((⟨8, 11, 1⟩ : Part).shift 3).renorm 10, ((⟨6, 9, -1⟩ : Part).shift 3).renorm 10) = (⟨1, 4, 1⟩, ⟨9, 12, -1⟩) := by
  decide
example : Part.WF 10 ⟨8, 11, 1⟩ := by unfold Part.WF; decide

end Moclo.C08
