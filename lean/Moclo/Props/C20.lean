import Moclo.Model.Registry
import Moclo.Proofs.Directory
import Moclo.Tables.Registries
import Mathlib.Data.List.Nodup
/-!
# C20 — registries are coherent read-only mappings of uniquely identified plasmids

* mapping laws for association lists and for combinations (`Reg.combine` = `CombinedRegistry`): keys once,
  union of the members' keys, first member added wins, absent key ↦ no item;
* the five embedded registries, exhaustively: kernel-checked over the table regenerated from the live
  archives on every run (`Generated/Registries.lean`).
* a directory of GenBank files (`Dir.keys`, `Dir.lookup` = `FilesystemRegistry.__iter__` / `__getitem__` over a
  listing): a key can be looked up exactly when iteration yields it, the file that is opened is spelt
  `key.ext`, what lies in a sub-directory or is not a regular file is never a key, and none of it depends on
  whether the filesystem matches wildcards case-insensitively.
**Partial**: `tarfile` / `fs` / GenBank parsing are I/O outside the model (the listing a filesystem returns for
literal extensions is modelled by its contract, and compared with the real one on in-memory and on-disk
directories by the correspondence).
-/
namespace Moclo.C20
open Moclo
variable {K V : Type} [DecidableEq K]

theorem lookup_isSome_iff (r : Reg K V) (k : K) : (r.lookup k).isSome ↔ k ∈ r.keys := by
  simp only [Reg.lookup, Reg.keys, Option.isSome_map, List.find?_isSome, List.mem_map, decide_eq_true_eq]

/-- looking up an absent key finds nothing (`KeyError`), and only then -/
theorem lookup_absent (r : Reg K V) (k : K) : r.lookup k = none ↔ k ∉ r.keys :=
  Option.not_isSome_iff_eq_none.symm.trans (lookup_isSome_iff r k).not

theorem lookup_append (r s : Reg K V) (k : K) :
    (r ++ s).lookup k = (r.lookup k).or (s.lookup k) := by
  simp only [Reg.lookup, List.find?_append, Option.map_or]

theorem lookup_singleton (k j : K) (v : V) : Reg.lookup [(k, v)] j = if k = j then some v else none := by
  simp only [Reg.lookup, List.find?_singleton, decide_eq_true_eq, apply_ite (Option.map _), Option.map_some,
    Option.map_none]

theorem setdefault_keys (r : Reg K V) (k : K) (v : V) :
    (r.setdefault k v).keys = if k ∈ r.keys then r.keys else r.keys ++ [k] := by
  simp only [Reg.setdefault, lookup_isSome_iff]
  split
  · rfl
  · exact List.map_append

theorem setdefault_lookup (r : Reg K V) (k : K) (v : V) (j : K) :
    (r.setdefault k v).lookup j = (r.lookup j).or (if k = j then some v else none) := by
  unfold Reg.setdefault
  split
  · rename_i h
    split
    · subst_vars; rw [Option.or_of_isSome h]
    · rw [Option.or_none]
  · rw [lookup_append, lookup_singleton]

theorem setdefault_nodup (r : Reg K V) (k : K) (v : V) (h : r.keys.Nodup) : (r.setdefault k v).keys.Nodup := by
  rw [setdefault_keys]
  split
  · exact h
  · rename_i hk
    exact h.append (List.nodup_singleton k) (by simpa using hk)

/-! A registry is read through `lookup`, and its keys are where `lookup` answers (`lookup_isSome_iff`): so what
`add` and `combine` do to `lookup` also says what they do to the keys. -/

theorem lookup_add (acc member : Reg K V) (k : K) :
    (acc.add member).lookup k = (acc.lookup k).or (member.lookup k) := by
  unfold Reg.add
  induction member generalizing acc with
  | nil => exact (Option.or_none ..).symm
  | cons e es ih =>
    rw [List.foldl_cons, ih, setdefault_lookup, Option.or_assoc, ← lookup_singleton, ← lookup_append]; rfl

theorem add_nodup (acc member : Reg K V) (h : acc.keys.Nodup) : (acc.add member).keys.Nodup :=
  List.foldlRecOn (motive := fun r => r.keys.Nodup) member _ h fun a ha e _ => setdefault_nodup a e.1 e.2 ha

theorem add_spec (acc member : Reg K V) (h : acc.keys.Nodup) :
    (acc.add member).keys.Nodup ∧
    (∀ k, k ∈ (acc.add member).keys ↔ k ∈ acc.keys ∨ k ∈ member.keys) ∧
    (∀ k, (acc.add member).lookup k = (acc.lookup k).or (member.lookup k)) :=
  ⟨add_nodup acc member h,
    fun k => by simp only [← lookup_isSome_iff, lookup_add, Option.isSome_or, Bool.or_eq_true],
    lookup_add acc member⟩

theorem lookup_foldl_add (members : List (Reg K V)) (acc : Reg K V) (k : K) :
    (members.foldl Reg.add acc).lookup k = (acc.lookup k).or (members.findSome? (·.lookup k)) := by
  induction members generalizing acc with
  | nil => exact (Option.or_none ..).symm
  | cons m ms ih =>
    rw [List.foldl_cons, ih, lookup_add, Option.or_assoc, List.findSome?_cons]
    cases m.lookup k <;> rfl

/-- **combination**: iteration yields each key once, the keys are the union of the members' keys, and when
several members hold an id the first one added wins -/
theorem combine_spec (members : List (Reg K V)) :
    (Reg.combine members).keys.Nodup ∧
    (∀ k, k ∈ (Reg.combine members).keys ↔ ∃ m ∈ members, k ∈ m.keys) ∧
    (∀ k, (Reg.combine members).lookup k = members.findSome? (fun m => m.lookup k)) := by
  have hl k : (Reg.combine members).lookup k = members.findSome? (fun m => m.lookup k) :=
    lookup_foldl_add members [] k
  refine ⟨List.foldlRecOn (motive := fun r => r.keys.Nodup) members _ List.nodup_nil fun a ha m _ => add_nodup a m ha,
    fun k => ?_, hl⟩
  simp only [← lookup_isSome_iff, hl, List.findSome?_isSome_iff]

/-- the length of a registry is the number of keys its iteration yields -/
theorem len_eq_keys (r : Reg K V) : r.length = r.keys.length := (List.length_map _).symm

/-- every yielded key can be looked up -/
theorem iterated_key_found (r : Reg K V) (k : K) (h : k ∈ r.keys) : (r.lookup k).isSome :=
  (lookup_isSome_iff r k).mpr h

/-- **the five embedded registries, exhaustively** (as they load from the archives now): the length is the
number of keys, keys are pairwise distinct, every key looks up an item carrying that key as its id whose
record has that id, is circular and has a known antibiotic resistance -/
theorem embedded_coherent :
    ∀ t ∈ Generated.registries,
      t.len = t.rows.length ∧ (t.rows.map (·.1)).Nodup ∧
      ∀ r ∈ t.rows, r.1 = r.2.1 ∧ r.1 = r.2.2.1 ∧ r.2.2.2.1 = true ∧ r.2.2.2.2 ∈ Tables.knownResistance := by
  intro t ht
  have h := List.all_eq_true.mp Tables.registries_ok t ht
  simp only [Tables.RegTable.ok, Bool.and_eq_true, List.all_eq_true, Nat.beq_eq, Tables.memN_iff,
    and_assoc] at h
  exact ⟨h.1, Tables.nodupN_sound h.2.1, h.2.2⟩

/-- whatever plasmid is loaded, from an archive or from a directory: when `find_resistance` answers, the
answer is the antibiotic the table gives for a cassette tag that labels one of the features — never anything
else -/
theorem resistance_from_table (table : List (Nat × Nat)) : ∀ (feats : List (List Nat)) (r : Nat),
    findResistance table feats = .ok r → ∃ labels ∈ feats, ∃ tag ∈ labels, (tag, r) ∈ table := by
  intro feats r
  fun_induction findResistance table feats with
  | case1 => nofun
  | case2 labels rest _ ih => exact fun h => (ih h).imp fun l hl => ⟨List.mem_cons_of_mem _ hl.1, hl.2⟩
  | case3 labels rest c hc e he =>
    -- the one tag `c` left on this feature is one of its labels, and `e` is the table's first entry for it
    rintro ⟨⟩
    have hcl : c ∈ labels := List.mem_eraseDups.mp (List.mem_filter.mp (hc ▸ List.mem_singleton_self c)).1
    have hk : e.1 = c := eq_of_beq (List.find?_some he :)
    exact ⟨labels, List.mem_cons_self, c, hcl, hk ▸ List.mem_of_find?_eq_some he⟩
  | case4 => nofun
  | case5 => nofun

/-- … and with the table as it is now (regenerated, kernel-checked) that is one of the four known antibiotics -/
theorem resistance_known (feats : List (List Nat)) (r : Nat)
    (h : findResistance Generated.antibiotics feats = .ok r) : r ∈ Tables.knownResistance := by
  obtain ⟨_, _, tag, _, hm⟩ := resistance_from_table _ feats r h
  exact Tables.memN_iff.mp (List.all_eq_true.mp Tables.antibiotics_known (tag, r) hm)

section directory
open Dir

/-- **a key can be looked up exactly when iteration yields it** — every yielded key is found, and looking up
anything else is a `KeyError` — whatever the extensions (none of them empty), the directory listing and the
case sensitivity of the filesystem's wildcard matching -/
theorem dir_lookup_iff_iterated (ci : Bool) (exts : List Name) (hne : [] ∉ exts) (dir : List Entry) (k : Name) :
    (lookup exts dir k).isSome ↔ k ∈ keys ci exts dir := by
  rw [mem_keys_iff hne, lookup_isSome]
  constructor
  · rintro ⟨e, he, hk, hf⟩
    obtain ⟨f, hfd, hff, hn⟩ := isFile_iff.mp hf
    exact ⟨f, hfd, hff, hn ▸ hk⟩
  · rintro ⟨f, hfd, hff, hk⟩
    obtain ⟨_, e, he, hn⟩ := key_spec hne hk
    exact ⟨e, he, hn ▸ hk, isFile_iff.mpr ⟨f, hfd, hff, hn⟩⟩

/-- the file opened for a key is a regular file of the directory itself spelt `key.ext` with a listed
extension, and the id given to its record (`splitext` of that name, which is what `key` computes) is the key -/
theorem dir_item_carries_key (exts : List Name) (dir : List Entry) (k n : Name) (h : lookup exts dir k = some n) :
    (∃ e ∈ exts, n = k ++ dotC :: e) ∧ key exts n = some k ∧ (∃ f ∈ dir, f.isFile = true ∧ f.name = n) := by
  obtain ⟨h1, h2, h3⟩ := lookup_spec h
  exact ⟨h1, h2, isFile_iff.mp h3⟩

/-- the keys do not depend on how the filesystem matches wildcards: a name that differs from `key.ext` in the
case of its extension (`x.GB`), or has nothing before its only dot (`.gb`), is not a plasmid file -/
theorem dir_keys_case_independent (exts : List Name) (hne : [] ∉ exts) (dir : List Entry) (k : Name) :
    k ∈ keys true exts dir ↔ k ∈ keys false exts dir := by
  rw [mem_keys_iff hne, mem_keys_iff hne]

/-- sub-directories and what they hold are ignored: an entry that is not a regular file yields no key, and no
name or key containing `/` is ever looked up successfully -/
theorem dir_subdirectories_ignored (ci : Bool) (exts : List Name) (hne : [] ∉ exts) (dir : List Entry) (k : Name)
    (hk : k ∈ keys ci exts dir) :
    slashC ∉ k ∧ ∃ f ∈ dir, f.isFile = true ∧ ∃ e ∈ exts, f.name = k ++ dotC :: e := by
  obtain ⟨f, hfd, hff, hkey⟩ := (mem_keys_iff hne).mp hk
  obtain ⟨hs, e, he, hn⟩ := key_spec hne hkey
  refine ⟨?_, f, hfd, hff, e, he, hn⟩
  intro hin
  exact hs (by rw [hn]; exact List.mem_append_left _ hin)

/-- **every plasmid file is listed**: a regular file of the directory named `stem.ext` — `ext` one of the
extensions (none empty, this one without a dot), the stem non-empty, not the single dot, no `/` in the name —
is yielded under its stem and can be looked up, whatever else the directory holds and however the filesystem
matches wildcards -/
theorem dir_plasmid_files_listed (ci : Bool) (exts : List Name) (hne : [] ∉ exts) (dir : List Entry)
    (f : Entry) (hf : f ∈ dir) (hfile : f.isFile = true) (k e : Name) (hname : f.name = k ++ dotC :: e)
    (he : e ∈ exts) (hd : dotC ∉ e) (hk : k ≠ []) (hk1 : k ≠ [dotC]) (hs : slashC ∉ f.name) :
    k ∈ keys ci exts dir ∧ (lookup exts dir k).isSome := by
  have hkey : key exts f.name = some k := by
    rw [hname]; exact key_of_plasmid_name he hd hk hk1 (by rw [← hname]; exact hs)
  have hmem : k ∈ keys ci exts dir := (mem_keys_iff hne).mpr ⟨f, hf, hfile, hkey⟩
  exact ⟨hmem, (dir_lookup_iff_iterated ci exts hne dir k).mpr hmem⟩

/-- `len()` is the number of keys iteration yields (the definition of `__len__`), and with distinct file stems
no key comes twice -/
theorem dir_keys_nodup (ci : Bool) (exts : List Name) (dir : List Entry)
    (hd : (dir.filterMap (fun f => key exts f.name)).Nodup) : (keys ci exts dir).Nodup := by
  unfold keys listing
  exact hd.sublist (List.Sublist.filterMap _ List.filter_sublist)

/-! non-vacuity: `a.gb`, `x.GB`, `.gb`, a directory `old.gb`, `p.q.gbk` under `("gb", "gbk")` on a case-insensitive
listing: keys `a` and `p.q`; `x`, the empty key and `old` are absent -/
def gb : Name := [103, 98]
def gbk : Name := [103, 98, 107]
def demoDir : List Entry :=
  [⟨[97, 46, 103, 98], true⟩, ⟨[120, 46, 71, 66], true⟩, ⟨[46, 103, 98], true⟩, ⟨[111, 108, 100, 46, 103, 98], false⟩,
   ⟨[112, 46, 113, 46, 103, 98, 107], true⟩]
example : keys true [gb, gbk] demoDir = [[97], [112, 46, 113]] ∧ keys false [gb, gbk] demoDir = [[97], [112, 46, 113]] ∧
    lookup [gb, gbk] demoDir [97] = some [97, 46, 103, 98] ∧ lookup [gb, gbk] demoDir [120] = none ∧
    lookup [gb, gbk] demoDir [] = none ∧ lookup [gb, gbk] demoDir [111, 108, 100] = none := by decide +kernel
example : ([] : Name) ∉ [gb, gbk] := by decide

end directory

example : findResistance [(1, 10), (2, 20)] [[5], [7, 2, 2], [1]] = .ok 20 ∧
    findResistance [(1, 10), (2, 20)] [[1, 2]] = .error .multiple ∧
    findResistance [(1, 10), (2, 20)] [[5], []] = .error .notFound := by decide
example : Reg.combine [[(1, "a"), (2, "b")], [(2, "c"), (3, "d")], [(1, "e")]]
    = [(1, "a"), (2, "b"), (3, "d")] := by decide

end Moclo.C20
