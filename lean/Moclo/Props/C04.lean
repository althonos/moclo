import Moclo.Proofs.Cut
import Moclo.Proofs.Screen
import Moclo.Props.C02
import Moclo.Props.C05
import Moclo.Tables.Kits
import Moclo.Tables.Enzymes
import Moclo.Proofs.ThreePrime
import Moclo.Tables.Enzymes3
/-!
# C04 — reported overhangs and fragments are true restriction fragments of the cutter

Model: `ClassSpec.matchSeq`, `Match.group`, `targetWord`, placeholder; `cutAligned` (a decidable property
of a structure pattern relative to a cutter geometry, kernel-checked for all 85 kit classes on the regenerated
table; the generic / signature-typed closed forms are cut-aligned for every geometry, `cutAligned_generic`,
`cutAligned_part`, hence over every supported enzyme).

All statements are about the *window* `text = window w i` the structure matched in — a rotation of the
plasmid — so they hold wherever the origin of the record lies, and for every accepted record whether or not
it is otherwise well formed (only soundness of the matcher is used, no uniqueness).
A site "matched at `s`" means its letters are matched letterwise (`matchesAt`), i.e. the enzyme recognises
it there; the enzyme cuts the top strand `|site| + off` letters after the start of a forward site, and
leaves the `k` letters that follow single-stranded; for a site on the other strand the overhang is the `k`
letters ending `off` letters before it.
-/
namespace Moclo.C04
open Moclo

/-- every concrete class of the five kits is cut-aligned for its own cutter (as the structures are now) -/
theorem kit_classes_cut_aligned : ∀ r ∈ Generated.kits, cutAligned (Tables.KitRow.geom r) r.pat = true :=
  fun r hr => List.all_eq_true.mp Tables.kits_cutAligned r hr

/-- … and so are the generic and signature-typed structures over every supported enzyme -/
theorem generic_classes_cut_aligned : ∀ r ∈ Generated.enzymes,
    cutAligned (Tables.EnzRow.geom r) r.modS = true ∧ cutAligned (Tables.EnzRow.geom r) r.vecS = true ∧
    cutAligned (Tables.EnzRow.geom r) r.modP = true ∧ cutAligned (Tables.EnzRow.geom r) r.vecP = true := by
  intro r hr
  have := List.all_eq_true.mp Tables.enzymes_cutAligned r hr
  simp only [Bool.and_eq_true] at this
  exact ⟨this.1.1.1, this.1.1.2, this.1.2, this.2⟩

/-- the relative marks of a match of a cut-aligned structure, and where the sites are -/
theorem marks_and_sites {g : Geom} {p : Pat} {text : Word} {rel : List Nat}
    (hca : cutAligned g p = true) (h : relMatch p text = some rel) :
    ∃ a1 b2 e, rel.reverse = [a1, a1 + g.k, a1 + g.k, b2, b2, b2 + g.k, e] ∧ a1 + g.k ≤ b2 ∧ b2 + g.k ≤ e ∧
      e ≤ text.length ∧
      ((g.site.length + g.off ≤ a1 ∧ matchesAt g.site (text.drop (a1 - g.off - g.site.length))) ∨
        matchesAt (rcNt g.site) (text.drop (a1 + g.k + g.off))) ∧
      (matchesAt (rcNt g.site) (text.drop (b2 + g.k + g.off)) ∨
        (a1 + g.k + g.site.length + g.off ≤ b2 ∧ matchesAt g.site (text.drop (b2 - g.off - g.site.length)))) := by
  obtain ⟨ms, e, hr, hrev⟩ := relMatch_run h
  obtain ⟨a1, b2, hms, h1, h2, h3, h4⟩ := cutAligned_sound hca hr
  refine ⟨a1, b2, e, by rw [hrev, hms]; rfl, h1, h2, ?_, h3, h4⟩
  have := hr.bounds.2.1; omega

/-- an accepted record of a cut-aligned class, whichever way its fragments are read (`R`) off the window and
the relative marks: the marks are the seven positions of `marks_and_sites`, and what is reported is `R` of them -/
theorem accepted_view {c : ClassSpec} {text : Word} {rel : List Nat} {α : Type} {R : List Nat → α} {r : α}
    (hca : cutAligned c.geom c.pat = true) (hrel : relMatch c.pat text = some rel)
    (hrep : (if validCuts c.geom (vgroup text rel.reverse 0) > 2 then Except.error Err.illegal
      else Except.ok (R rel.reverse)) = .ok r) :
    ∃ a1 b2 e, rel.reverse = [a1, a1 + c.geom.k, a1 + c.geom.k, b2, b2, b2 + c.geom.k, e] ∧
      a1 + c.geom.k ≤ b2 ∧ b2 + c.geom.k ≤ text.length ∧
      r = R [a1, a1 + c.geom.k, a1 + c.geom.k, b2, b2, b2 + c.geom.k, e] := by
  obtain ⟨a1, b2, e, hrs, h1, h2, h4, -⟩ := marks_and_sites hca hrel
  split at hrep
  · cases hrep
  · cases hrep
    exact ⟨a1, b2, e, hrs, h1, by omega, by rw [hrs]⟩

/-- **overhangs, target and placeholder of an accepted record**: with `a1`, `b2` as above,
* the overhang reported from group 1 is `text[a1, a1+k)` and the one from group 3 is `text[b2, b2+k)`, each
  the single-stranded end of a cut of the enzyme (by `marks_and_sites`);
* a module's target is `text[a1, b2)`: from the first cut to the second, leading overhang included, trailing
  one excluded; a vector's target is the complementary stretch `text[b2, end) ++ text[0, a1)`;
* a vector's placeholder is the contiguous stretch `text[a1, b2)`. -/
theorem accepted_record_fragments {c : ClassSpec} {w : Word} {i : Nat} {rel : List Nat}
    (hca : cutAligned c.geom c.pat = true) (h3 : C02.ThreeGroups c.pat) (hi : i < w.length)
    (hrel : relMatch c.pat (window w i) = some rel)
    (hs : search c.pat w true = some ⟨i :: rel.reverse.map (· + i)⟩)
    {up down tgt ph : Word} (hrep : C02.report c w = .ok (up, down, tgt, ph)) :
    ∃ a1 b2 e, rel.reverse = [a1, a1 + c.geom.k, a1 + c.geom.k, b2, b2, b2 + c.geom.k, e] ∧
      (match c.kind with
       | .module => up = slice (window w i) a1 (a1 + c.geom.k) ∧ down = slice (window w i) b2 (b2 + c.geom.k) ∧
                    tgt = slice (window w i) a1 b2
       | .vector => down = slice (window w i) a1 (a1 + c.geom.k) ∧ up = slice (window w i) b2 (b2 + c.geom.k) ∧
                    tgt = (window w i).drop b2 ++ (window w i).take a1) ∧
      ph = slice (window w i) a1 b2 := by
  rw [C02.report_of_view h3 hi hrel hs] at hrep
  obtain ⟨a1, b2, e, hrs, h1, -, hr⟩ := accepted_view hca hrel
    (R := fun rs => (vgroup (window w i) rs c.upGroup, vgroup (window w i) rs c.downGroup,
      vTarget c.kind (window w i) rs, vgroup (window w i) rs 1 ++ vgroup (window w i) rs 2)) hrep
  cases hr
  refine ⟨a1, b2, e, hrs, ?_, slice_join _ a1 (a1 + c.geom.k) b2 (by omega) h1⟩
  unfold ClassSpec.upGroup ClassSpec.downGroup
  cases c.kind <;> exact ⟨rfl, rfl, rfl⟩

/-- **placeholder and target tile the plasmid**: for a vector, placeholder followed by target is the window
rotated to the start of the placeholder — every nucleotide of the plasmid exactly once -/
theorem placeholder_target_tile (text : Word) (a1 b2 : Nat) (h1 : a1 ≤ b2) (h2 : b2 ≤ text.length) :
    slice text a1 b2 ++ (text.drop b2 ++ text.take a1) = text.rotate a1 := by
  rw [← List.append_assoc, slice_append_drop text h1, List.rotate_eq_drop_append_take (by omega)]

theorem placeholder_target_isRotated (w : Word) (i a1 b2 : Nat) (hi : i < w.length) (h1 : a1 ≤ b2) (h2 : b2 ≤ w.length) :
    (slice (window w i) a1 b2 ++ ((window w i).drop b2 ++ (window w i).take a1)) ~r w := by
  rw [placeholder_target_tile _ _ _ h1 (by rw [window_length w i (Nat.le_of_lt hi)]; exact h2),
    window_eq_rotate w i (Nat.le_of_lt hi)]
  exact (List.IsRotated.forall _ _).trans (List.IsRotated.forall _ _)

/-- the cutters in play have non-palindromic sites spelt with nucleotides (kernel-checked on the regenerated
tables: the 58 supported enzymes and the cutters of the 85 kit classes) -/
theorem cutter_sites_plain :
    (∀ r ∈ Generated.enzymes, r.site.all Nt.isBase = true ∧ r.site ≠ rcNt r.site) ∧
    (∀ r ∈ Generated.kits, r.site.all Nt.isBase = true ∧ r.site ≠ rcNt r.site) :=
  ⟨fun _ hr => Tables.sites_spec Tables.enzymes_sites hr, fun _ hr => Tables.sites_spec Tables.kits_sites hr⟩

/-- **no further cut strictly inside the target** (module classes whose sites flank the target — the generic
module structure and every signature-typed module structure): if the class accepts the record, i.e. the match
passes the illegal-site screen, then at no position strictly inside the target `[a1, b2)` of the matched
window does the enzyme cut, on either strand -/
theorem no_inner_cut (g : Geom) (up down : List Nt) (hu : up.length = g.k) (hd : down.length = g.k)
    (hbase : g.site.all Nt.isBase = true) (hnp : g.site ≠ rcNt g.site) (hs1 : 1 ≤ g.site.length)
    {text : Word} {ms : List Nat} {e : Nat}
    (h : Run (moduleStructure g) text 0 ms e ∨ Run (modulePartStructure g up down) text 0 ms e)
    (hscreen : validCuts g (text.take e) ≤ 2) :
    ∃ a1 b2, ms = [a1, a1 + g.k, a1 + g.k, b2, b2, b2 + g.k] ∧ a1 = g.site.length + g.off ∧
      ∀ c, a1 < c → c < b2 →
        siteAt g.site text (c - g.off - g.site.length) = false ∧ siteAt (rcNt g.site) text (c + g.k + g.off) = false := by
  have mg2 := (C05.pieces_markless .module g).2.1
  rcases h with h | h
  · exact no_inner_cut_of_screen hbase hnp hs1 mg2 (isFixed_nRun g.k) (isFixed_nRun g.k)
      (C05.generic_eq .module g ▸ h) hscreen
  · exact no_inner_cut_of_screen hbase hnp hs1 mg2 (hu ▸ isFixed_lits up) (hd ▸ isFixed_lits down)
      (C05.part_eq .module g up down ▸ h) hscreen

/-! ## cutters that leave a 3' overhang (signature-typed part classes; beyond the kits' own cutters) -/

/-- acceptance is the same function: the illegal-site screen of a 3' cutter counts the same cuts -/
theorem three_prime_same_screen (c : ClassSpec) (w : Word) : c.matchSeq3 w = c.matchSeq w := matchSeq3_eq c w

/-- **fragments of an accepted record, 3' cutter**: the overhangs are the same stretches `text[a1, a1+k)` and
`text[b2, b2+k)`; a module's target now runs from the end of the first overhang to the end of the second
(leading overhang excluded, trailing one included — the mirror image of the 5' rule), a vector's target is the
complementary stretch, and a vector's placeholder is the contiguous stretch `text[a1+k, b2+k)` -/
theorem three_prime_fragments {c : ClassSpec} {w : Word} {i : Nat} {rel : List Nat}
    (hca : cutAligned c.geom c.pat = true) (h3 : C02.ThreeGroups c.pat) (hi : i < w.length)
    (hrel : relMatch c.pat (window w i) = some rel)
    (hs : search c.pat w true = some ⟨i :: rel.reverse.map (· + i)⟩)
    {up down tgt ph : Word} (hrep : report3 c w = .ok (up, down, tgt, ph)) :
    ∃ a1 b2 e, rel.reverse = [a1, a1 + c.geom.k, a1 + c.geom.k, b2, b2, b2 + c.geom.k, e] ∧
      a1 + c.geom.k ≤ b2 ∧ b2 + c.geom.k ≤ (window w i).length ∧
      (match c.kind with
       | .module => up = slice (window w i) a1 (a1 + c.geom.k) ∧ down = slice (window w i) b2 (b2 + c.geom.k) ∧
                    tgt = slice (window w i) (a1 + c.geom.k) (b2 + c.geom.k)
       | .vector => down = slice (window w i) a1 (a1 + c.geom.k) ∧ up = slice (window w i) b2 (b2 + c.geom.k) ∧
                    tgt = (window w i).drop (b2 + c.geom.k) ++ (window w i).take (a1 + c.geom.k) ∧
                    ph = slice (window w i) (a1 + c.geom.k) (b2 + c.geom.k)) := by
  rw [report3_of_view h3 hi hrel hs] at hrep
  obtain ⟨a1, b2, e, hrs, h1, h2, hr⟩ := accepted_view hca hrel
    (R := fun rs => (vgroup (window w i) rs c.upGroup, vgroup (window w i) rs c.downGroup,
      vTarget3 c.kind (window w i) rs, vgroup (window w i) rs 2 ++ vgroup (window w i) rs c.upGroup)) hrep
  cases hr
  refine ⟨a1, b2, e, hrs, h1, h2, ?_⟩
  unfold ClassSpec.upGroup ClassSpec.downGroup
  cases c.kind
  · exact ⟨rfl, rfl, rfl⟩
  · exact ⟨rfl, rfl, rfl, slice_join _ (a1 + c.geom.k) b2 (b2 + c.geom.k) h1 (by omega)⟩

/-- … and placeholder and target still tile the plasmid -/
theorem three_prime_tile (w : Word) (i a1 b2 k : Nat) (hi : i < w.length) (h1 : a1 + k ≤ b2) (h2 : b2 + k ≤ w.length) :
    (slice (window w i) (a1 + k) (b2 + k) ++ ((window w i).drop (b2 + k) ++ (window w i).take (a1 + k))) ~r w :=
  placeholder_target_isRotated w i (a1 + k) (b2 + k) hi (by omega) h2

/-- **one fragment, two conventions**: on the same accepted window the 5' reading (leading overhang + body) and
the 3' reading (body + trailing overhang) differ only in which of the two overhangs they carry — upstream overhang
followed by the 3' target is the 5' target followed by the downstream overhang, both the stretch `text[a1, b2+k)`
between the outermost cut positions -/
theorem three_prime_same_fragment (text : Word) (a1 b2 k : Nat) (h1 : a1 + k ≤ b2) :
    slice text a1 (a1 + k) ++ slice text (a1 + k) (b2 + k) = slice text a1 b2 ++ slice text b2 (b2 + k) := by
  rw [slice_join _ _ _ _ (by omega) (by omega), slice_join _ _ _ _ (by omega) (by omega)]

/-- the signature-typed structures over every single-cut 3'-overhang enzyme of `Bio.Restriction` with an
unambiguous site are the same closed forms as for a 5' cutter with the same `(site, off, k)`, and are
cut-aligned (kernel-checked on the regenerated table) -/
theorem three_prime_structures : ∀ r ∈ Generated.enzymes3,
    r.modP = modulePartStructure (Tables.Enz3Row.geom r) r.up r.down ∧
    r.vecP = vectorPartStructure (Tables.Enz3Row.geom r) r.up r.down ∧
    cutAligned (Tables.Enz3Row.geom r) r.modP = true ∧ cutAligned (Tables.Enz3Row.geom r) r.vecP = true := by
  intro r hr
  have := List.all_eq_true.mp Tables.enzymes3_ok r hr
  simp only [Tables.Enz3Row.ok, Bool.and_eq_true, beq_iff_eq, decide_eq_true_eq] at this
  obtain ⟨⟨⟨⟨⟨⟨_, hm⟩, hv⟩, _⟩, _⟩, c1⟩, c2⟩ := this
  exact ⟨hm, hv, c1, c2⟩

/-! non-vacuity: the toy module of C01/C02 -/
example : cutAligned C02.g C02.c.pat = true := by decide
example : cutAligned ⟨[.G,.A,.A,.G,.A,.C], 2, 4⟩ (vectorStructure ⟨[.G,.A,.A,.G,.A,.C], 2, 4⟩) = true := by decide

end Moclo.C04
