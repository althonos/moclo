import Moclo.Proofs.Assembly
import Moclo.Proofs.Layout
import Moclo.Proofs.Report
/-!
# C17 — validation is total and failures are always reported as MoClo errors

The model is total by construction (every function is a total Lean function), so "returns True or False"
is carried by the correspondence check on the malformed stream; the theorems below carry the error
*taxonomy*: what `is_valid()` is equivalent to, what the accessors raise on a rejected record, and which
errors an assembly can end with.
**Partial**: "never AttributeError / KeyError / IndexError / TypeError" is a statement about the Python
runtime that no total model can exhibit: decided by the oracle on the implementation.
-/
namespace Moclo.C17
open Moclo

/-- `is_valid()` answers `False` exactly when the match fails with one of the two documented
invalid-sequence errors -/
theorem isValid_false_iff (c : ClassSpec) (w : Word) :
    c.isValid w = false ↔ c.matchSeq w = .error .invalid ∨ c.matchSeq w = .error .illegal := by
  unfold ClassSpec.isValid ClassSpec.matchSeq
  cases search c.pat w true with
  | none => simp
  | some m =>
    by_cases hc : validCuts c.geom (m.group w 0) > 2 <;> simp [hc]

theorem isValid_true_iff (c : ClassSpec) (w : Word) : c.isValid w = true ↔ ∃ m, c.matchSeq w = .ok m :=
  C02.isValid_iff_ok c w

/-- on a record that is not valid, overhangs, target and placeholder all raise that same
invalid-sequence error -/
theorem accessors_raise_invalid (c : ClassSpec) (r : Rec) (h : c.isValid r.seq = false) :
    ∃ e, (e = .invalid ∨ e = .illegal) ∧ c.overhangStart r.seq = .error e ∧ c.overhangEnd r.seq = .error e ∧
      c.target r = .error e ∧ c.placeholder r.seq = .error e := by
  obtain ⟨e, he, h'⟩ : ∃ e, (e = .invalid ∨ e = .illegal) ∧ c.matchSeq r.seq = .error e :=
    ((isValid_false_iff c r.seq).mp h).elim (fun h' => ⟨_, .inl rfl, h'⟩) (fun h' => ⟨_, .inr rfl, h'⟩)
  -- all four accessors are maps of the match
  unfold ClassSpec.overhangStart ClassSpec.overhangEnd ClassSpec.target ClassSpec.placeholder
  rw [h']
  exact ⟨e, he, rfl, rfl, rfl, rfl⟩

/-- **an assembly ends with a product or with a documented error**: the only possible failures are the
invalid-sequence errors, `DuplicateModules`, `MissingModule` — plus, and only when the harness injected one,
the injected fault, and `internal` only for citation qualifiers that do not index the reference list -/
theorem assemble_errors_documented (v : Ent) (mods : List Ent) (pid pname : Nat) (e : Err)
    (h : (assemble v mods pid pname).1 = .error e) :
    e = .invalid ∨ e = .illegal ∨ e = .duplicate ∨ (∃ o, e = .missing o) ∨ e = .injected ∨ e = .internal := by
  -- these are the six constructors of `Err`; what `h` adds is `internal_only_for_bad_citations`
  cases e <;> simp

/-- every module the walk puts into the chain is one of the supplied objects, so its extraction finds it -/
theorem chain_found {mods dms : List Ent} {gs map chain rest : List (GMod Word)} {err : Option Err}
    {stall : Option Word} {cur stop : Word}
    (h3 : evalPrefix mods = (gs, err)) (hb : gBuild gs [] = .ok map)
    (hw : gWalk stop (map.length + 1) cur map = (chain, rest, stall))
    (hms : List.Forall₂ DerefOf mods dms) :
    ∀ g ∈ chain, ∃ d, dms.find? (fun e => e.oid = g.oid) = some d :=
  fun g hg => (chain_find h3 hb hw hms g hg).elim fun _ ⟨d, _, hd, _⟩ => ⟨d, hd⟩

/-- **the internal error has exactly one cause**: an assembly ends with `internal` only when a `/citation`
qualifier of one of the supplied records does not index that record's reference list (the one input defect the
library does not translate into a MoClo error); with well-formed citations every failure is a documented one -/
theorem internal_only_for_bad_citations (v : Ent) (mods : List Ent) (pid pname : Nat)
    (h : (assemble v mods pid pname).1 = .error .internal) :
    derefRec v.rcd = none ∨ ∃ e ∈ mods, derefRec e.rcd = none :=
  assemble_internal h

/-- **multi-level workflows**: the product of a successful assembly, used as a module of a further assembly
together with any other records whose citations are well formed, never makes that assembly end with the internal
error — however many papers the product cites -/
theorem product_as_input_never_internal {v : Ent} {mods : List Ent} {pid pname : Nat} {p : Product}
    {after : List Rec} (h : assemble v mods pid pname = (.ok p, after))
    (v2 : Ent) (mods2 : List Ent) (pid2 pname2 : Nat) (hv2 : (derefRec v2.rcd).isSome)
    (hm2 : ∀ e ∈ mods2, e.rcd = p.rcd ∨ (derefRec e.rcd).isSome) :
    (assemble v2 mods2 pid2 pname2).1 ≠ .error .internal := by
  intro hint
  rcases internal_only_for_bad_citations v2 mods2 pid2 pname2 hint with hn | ⟨e, he, hn⟩
  · rw [hn] at hv2; cases hv2
  · rcases hm2 e he with hp | hs
    · obtain ⟨pre, _, _, hd⟩ := product_derefs h
      rw [hp, hd] at hn; cases hn
    · rw [hn] at hs; cases hs

/-! non-vacuity: the toy assembly of `C01` succeeds; with a citation `[5]` on a module that lists no reference it
ends with the internal error, and the hypothesis of `internal_only_for_bad_citations` is met by that module -/
section example_
def g : Geom := { site := [.G, .A], off := 1, k := 2 }
def wordOf (s : List Nt) : Word := s.map (fun n => ⟨n, false⟩)
def mrec (cs : List Cite) : Rec :=
  { rid := 1, seq := wordOf [.G,.A,.C,.A,.C,.A,.A,.A,.C,.A,.C,.T,.C,.G,.G],
    feats := [⟨1, .user 0, [⟨3, 4, 1⟩], cs⟩], refs := [] }
def vrec : Rec := { rid := 0, seq := wordOf [.C,.A,.C,.C,.C,.C,.A,.C,.C,.T,.C,.T,.G,.A,.C], feats := [], refs := [] }
def ment (cs : List Cite) : Ent :=
  { oid := 1, spec := { kind := .module, pat := moduleStructure g, geom := g }, rcd := mrec cs }
def vent : Ent := { oid := 0, spec := { kind := .vector, pat := vectorStructure g, geom := g }, rcd := vrec }
example : (assemble vent [ment []] 7 7).1.toOption.isSome = true := by decide +kernel
example : (assemble vent [ment [.idx 5]] 7 7).1 = .error .internal := by decide +kernel
end example_

/-! non-vacuity: a record shorter than the structure is rejected with `invalid`; one with a third cut with
`illegal` -/
example : ({ kind := .module, pat := moduleStructure ⟨[.G, .A], 1, 2⟩, geom := ⟨[.G, .A], 1, 2⟩ } : ClassSpec).matchSeq
    ([.G, .A, .C].map (fun n => ⟨n, false⟩)) = .error .invalid := by decide

end Moclo.C17
