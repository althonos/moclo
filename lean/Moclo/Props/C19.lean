import Moclo.Proofs.Assembly
import Moclo.Proofs.SameRole
/-!
# C19 — parts of the same type are interchangeable

Model: `assemble`.  `Interchangeable e e'`: `e'` stands where `e` stood (same Python-level position /
identity in the argument list), is a valid module of its class reporting the same upstream and downstream
overhangs as `e` (`gmod` = both overhangs, upper-cased), its citations are well formed and its extraction
does not fail.
-/
namespace Moclo.C19
open Moclo

/-- either the same entity, or a replacement with the same two overhangs -/
def Interchangeable (e e' : Ent) : Prop :=
  e' = e ∨ (e'.oid = e.oid ∧ e'.gmod = e.gmod ∧ e'.faulty = false ∧ (derefRec e'.rcd).isSome ∧
            ∃ m, e'.spec.matchSeq e'.rcd.seq = .ok m)

theorem Interchangeable.oid {e e' : Ent} (h : Interchangeable e e') : e'.oid = e.oid := by
  rcases h with rfl | ⟨h, _⟩ <;> [rfl; exact h]

theorem Interchangeable.gmod {e e' : Ent} (h : Interchangeable e e') : e'.gmod = e.gmod := by
  rcases h with rfl | ⟨_, h, _⟩ <;> [rfl; exact h]

theorem evalPrefix_interchangeable {ms ms' : List Ent} (h : List.Forall₂ Interchangeable ms ms') :
    evalPrefix ms' = evalPrefix ms :=
  evalPrefix_congr (h.imp fun _ _ h => h.gmod)

/-- **substitution**: if an assembly succeeds, replacing any of its modules by valid modules with the same
upstream and downstream overhangs also succeeds; both products are the concatenation, along the *same*
chain, of the modules' retained fragments followed by the same vector fragment — so the new product differs
from the old one only in the segments of the replaced modules: vector backbone, every other module's
segment and every junction are literally the same -/
theorem substitute_modules {v : Ent} {mods mods' : List Ent} {pid pname : Nat} {p : Product} {after : List Rec}
    (h : assemble v mods pid pname = (.ok p, after)) (hrel : List.Forall₂ Interchangeable mods mods') :
    ∃ (p' : Product) (chain : List (GMod Word)),
      (assemble v mods' pid pname).1 = .ok p' ∧
      p.rcd.seq = (chain.map (fun g => fragOfOid mods g.oid)).flatten ++ v.fragment ∧
      p'.rcd.seq = (chain.map (fun g => fragOfOid mods' g.oid)).flatten ++ v.fragment ∧
      p'.unused = p.unused ∧
      ∀ g ∈ chain, (∀ e, mods.find? (fun e => e.oid = g.oid) = some e →
        mods'.find? (fun e => e.oid = g.oid) = some e) → fragOfOid mods' g.oid = fragOfOid mods g.oid := by
  obtain ⟨gv, gs, map, chain, rest, h1, h2, h3, h4, h5, h6, h7, h8, _, _, _, _, _, h9, h10, h11, h12⟩ := assemble_ok h
  have hfind := fun k => find?_oid_rel hrel (fun _ _ h => h.oid) k
  -- the graph part is literally the same, hence the same chain and leftover
  obtain ⟨p', hp', k7, k8⟩ := assemble_succeeds pid pname h1 h2 (evalPrefix_interchangeable hrel ▸ h3) h4 h5 h6
    (fun e' he' => by
      obtain ⟨e, he, hi⟩ := hrel.exists_of_mem_right e' he'
      rcases hi with rfl | ⟨_, _, _, hd, _⟩ <;> [exact h11 _ he; exact hd])
    h12
    (fun g hg e' he' => by
      obtain ⟨e, he, hi⟩ := (he' ▸ hfind g.oid).of_some_right
      obtain ⟨e0, _, he0, hf, _⟩ := h9 g hg
      rcases hi with rfl | ⟨_, _, hf', _⟩ <;> [exact Option.some.inj (he.symm.trans he0) ▸ hf; exact hf'])
    h10
  refine ⟨p', chain, hp', h7, k7, k8.trans h8.symm, fun g _ hsame => ?_⟩
  unfold fragOfOid
  cases hf : mods.find? (fun e => e.oid = g.oid) with
  | none => have := hfind g.oid; rw [hf] at this; rw [this.of_none_left]
  | some e => rw [hsame e hf]

/-- the same for the vector: the outcome of an assembly depends on *every* input only through its role —
position, overhang keys, retained fragment (`SameRole`) — so a vector of the same type with another backbone
gives the same chain and the same module segments -/
theorem substitute_any {v v' : Ent} {mods mods' : List Ent} {pid pname : Nat} {p : Product} {after : List Rec}
    (h : assemble v mods pid pname = (.ok p, after)) (hv : SameRole v v') (hm : List.Forall₂ SameRole mods mods') :
    ∃ p', (assemble v' mods' pid pname).1 = .ok p' ∧ p'.rcd.seq = p.rcd.seq ∧ p'.unused = p.unused :=
  assemble_sameRole h hv hm

/-- … including failures: inputs playing the same roles fail with the same error -/
theorem substitute_any_outcome {v v' : Ent} {mods mods' : List Ent} (pid pname : Nat)
    (hv : SameRole v v') (hm : List.Forall₂ SameRole mods mods') :
    OutcomeSame (assemble v mods pid pname).1 (assemble v' mods' pid pname).1 :=
  assemble_sameRole_outcome pid pname hv hm

/-! non-vacuity: see `Moclo.C01` example; a replacement with another target changes only that segment -/

end Moclo.C19
