import Moclo.Proofs.Layout
/-!
# C10 — literature citations survive assembly with consistent numbering

Model: `derefRec` (`_deref_citations`), `rerefRec` (`_ref_citations` on the product), `snapshot`/`restore`
for the inputs; rotation, slicing and concatenation never touch the citation entries of a feature.
References are opaque identities with decidable equality (`Reference.__eq__`).
-/
namespace Moclo.C10
open Moclo

/-- dereferencing replaces every citation index of a record by the reference it points to -/
theorem deref_points_to_reference {r r' : Rec} (h : derefRec r = some r') :
    List.Forall₂ (fun f f' => List.Forall₂ (fun c c' => match c with
      | .idx i => 1 ≤ i ∧ ∃ x, r.refs[i-1]? = some x ∧ c' = .ref x
      | .ref x => c' = .ref x) f.cites f'.cites) r.feats r'.feats := by
  refine (derefRec_eq_some.mp h).2.imp fun f f' hf => (derefFeature_eq_some.mp hf).2.imp fun c c' hc => ?_
  cases c with
  | ref x => exact (Option.some.inj hc).symm
  | idx i => exact derefCite_idx.mp hc

/-- the citation entries of a feature are carried untouched by rotation, slicing, shifting and
concatenation (so an inherited feature cites what its source feature cited) -/
theorem cites_carried (n k : Nat) (d : Int) (f : Feature) :
    (f.rotr n k).cites = f.cites ∧ (f.shift d).cites = f.cites ∧ (f.flip n).cites = f.cites :=
  ⟨Feature.rotr_cites n k f, rfl, rfl⟩

/-- **the product's reference list**: built from an empty list, it holds each cited reference exactly once
and nothing else; every citation of the product is a bracketed index `[j]` and points to the very reference
the (dereferenced) source citation denoted -/
theorem product_references (pre : Rec) :
    let p := rerefRec { pre with refs := [] }
    p.refs.Nodup ∧
    (∀ r ∈ p.refs, ∃ f ∈ pre.feats, Cite.ref r ∈ f.cites) ∧
    List.Forall₂ (fun f f' => f'.ftype = f.ftype ∧ f'.qual = f.qual ∧ f'.parts = f.parts ∧
      List.Forall₂ (fun c c' => match c with
        | .ref r => ∃ j, c' = .idx (j + 1) ∧ p.refs[j]? = some r
        | .idx i => c' = .idx i) f.cites f'.cites) pre.feats p.feats := by
  intro p
  refine ⟨rerefRec_refs _ ▸ (enlist_spec _ []).2.1 List.nodup_nil,
    fun r hr => (mem_rerefRec_refs.mp hr).resolve_left List.not_mem_nil, ?_⟩
  rw [show p.feats = _ from rerefRec_feats _]
  refine List.forall₂_map_right_iff.mpr (List.forall₂_same.mpr fun f hf => ⟨rfl, rfl, rfl, ?_⟩)
  refine List.forall₂_map_right_iff.mpr (List.forall₂_same.mpr fun c hc => ?_)
  cases c with
  | idx i => rfl
  | ref r => exact ⟨_, rfl, List.getElem?_idxOf (mem_rerefRec_refs.mpr (.inr ⟨f, hf, hc⟩))⟩

/-- **the inputs' own citation indices are unchanged afterwards** (shared with C07) -/
theorem inputs_citations_unchanged (v : Ent) (mods : List Ent) (pid pname : Nat) :
    (assemble v mods pid pname).2 = v.rcd :: mods.map (·.rcd) := assemble_inputs v mods pid pname

/-- **the numbering can be read back**: dereferencing the product's citations against the product's own
reference list (what the next assembly does first when the product is one of its inputs) succeeds and yields,
entry by entry, the papers the source features cited — for any number of papers, cited any number of times -/
theorem product_citations_read_back (pre : Rec) (h : ∀ f ∈ pre.feats, ∀ c ∈ f.cites, ∃ r, c = Cite.ref r) :
    derefRec (rerefRec { pre with refs := [] }) =
      some { pre with refs := (rerefRec { pre with refs := [] }).refs } := deref_reref pre h

/-- … and this is the situation of the product of every successful assembly -/
theorem product_citations_resolve {v : Ent} {mods : List Ent} {pid pname : Nat} {p : Product} {after : List Rec}
    (h : assemble v mods pid pname = (.ok p, after)) :
    ∃ pre : Rec, (∀ f ∈ pre.feats, ∀ c ∈ f.cites, ∃ r, c = Cite.ref r) ∧
      p.rcd = rerefRec { pre with refs := [] } ∧ derefRec p.rcd = some { pre with refs := p.rcd.refs } :=
  product_derefs h

/-! non-vacuity: two features citing overlapping references -/
def exPre : Rec := ⟨0, [], [⟨1, .user 0, [], [.ref 7, .ref 5]⟩, ⟨1, .user 1, [], [.ref 5, .ref 8]⟩], [9]⟩
example : ((rerefRec { exPre with refs := [] }).refs, (rerefRec { exPre with refs := [] }).feats.map (·.cites))
    = ([7, 5, 8], [[.idx 1, .idx 2], [.idx 2, .idx 3]]) := by decide

example : derefRec (rerefRec { exPre with refs := [] }) = some { exPre with refs := [7, 5, 8] } := by decide

end Moclo.C10
