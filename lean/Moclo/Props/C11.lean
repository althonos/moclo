import Moclo.Props.C01
import Moclo.Tables.Kits
import Moclo.Proofs.Case
import Moclo.Proofs.Layout
/-!
# C11 — products of one level are valid modules of the next level

Model: the vector structures of the kits (`Generated/Kits.lean`, live `structure()`), `nextLevelOK` (a
decidable layout property of a vector structure relative to the next level's cutter), the generic module
structure of the next level, `C01.module_canonical`.

* every bundled vector type that embeds the next level's sites (CIDAR entry / cassette / device, EcoFlex
  cassette / device, MoClo entry / cassette vectors) has the next-level layout for the cutter of the kit's
  next-level module class, and that class is matched with the generic module structure (kernel-checked on the
  regenerated table);
* for **any** vector instantiating such a structure, the part of the plasmid the vector keeps around the
  insertion point reads `S·X·OV … OV'·Y·S'` with `S` the next-level site, `S'` its reverse complement, `X`, `Y`
  spacers of the next level's offset and `OV`, `OV'` either empty (the vector's own overhangs double as the
  next level's) or the next level's overhangs;
* hence the product, read from that site, is `S·X·o5·t·o3·Y·S'·rest` with `o5·t ⊇` the whole insert, and
  `C01.module_canonical` for the next level's geometry applies: if the product carries the next-level structure
  exactly once and passes the screen (no further next-level site), the next-level class accepts it at every
  rotation and its target contains every module target in chain order.
The YTK entry vector / YTK product pair has another shape — the next level's sites sit inside the *module's*
target: `ytk_structures` (kernel-checked on the regenerated table: the live `YTKProduct.structure()` is the
closed form `ytkProductPat`, the live `YTKEntry.structure()` the generic BsaI module structure),
`ytk_product_layout` (what any fit of the product structure reads) and `ytk_pair` (the product is a
well-formed BsaI module whose target contains the whole template; accepted at every rotation under the same
"exactly once, screen passes" hypotheses, for templates of at least two letters).
-/
namespace Moclo

def ytkHead : Pat := (lits [.C, .G, .T, .C, .T, .C] ++ nRun 1) ++ [.gopen] ++ [.cls .N, .cls .N, .cls .G, .cls .G] ++
  [.gclose, .gopen] ++ (lits [.T, .C, .T, .C] ++ nRun 5)
def ytkTail : Pat := (nRun 5 ++ lits [.G, .A]) ++ [.gclose, .gopen] ++ lits [.G, .A, .C, .C] ++ [.gclose] ++
  (nRun 1 ++ lits [.G, .A, .G, .A, .C, .G])

theorem ytkProductPat_eq : ytkProductPat = ytkHead ++ .star .N false :: ytkTail := by decide

/-- **what a YTK product is made of**: in any fit of `YTKProduct.structure()` the upstream overhang and the
target read `n n · [GGTCTC · x · o5 · t · o3 · y · GA]`, the downstream overhang reads `GACC`: the next level's
site, its spacer, the type-specific overhangs around the template `t`, the spacer, and the first two letters
of the next level's reverse site, completed by the downstream overhang -/
theorem ytk_product_layout {text : Word} {ms : List Nat} {e : Nat} (h : Run ytkProductPat text 0 ms e) :
    ∃ b2 n12 S x o5 t o3 y GA,
      ms = [7, 11, 11, b2, b2, b2 + 4] ∧ b2 + 4 ≤ text.length ∧
      slice text 7 b2 = n12 ++ S ++ x ++ o5 ++ t ++ o3 ++ y ++ GA ∧
      n12.length = 2 ∧ S.length = 6 ∧ matchesAt [.G, .G, .T, .C, .T, .C] S ∧
      x.length = 1 ∧ o5.length = 4 ∧ o3.length = 4 ∧ y.length = 1 ∧ GA.length = 2 ∧ matchesAt [.G, .A] GA ∧
      matchesAt [.G, .A, .C, .C] (slice text b2 (b2 + 4)) ∧ C01.Plain (x ++ o5 ++ t ++ o3 ++ y) := by
  rw [ytkProductPat_eq] at h
  obtain ⟨X1, t, X2, R, rfl, l1, l2, m1, pt, m2, rfl, rfl⟩ := h.head_tail_parts (by decide) (by decide)
  -- the letters of head and tail, cut where the statement cuts the text
  replace m1 : matchesAt ([.C, .G, .T, .C, .T, .C, .N] ++ ([.N, .N] ++ ([.G, .G, .T, .C, .T, .C] ++ ([.N] ++
    [.N, .N, .N, .N])))) X1 := m1
  replace m2 : matchesAt ([.N, .N, .N, .N] ++ ([.N] ++ ([.G, .A] ++ ([.G, .A, .C, .C] ++
    [.N, .G, .A, .G, .A, .C, .G])))) X2 := m2
  obtain ⟨p7, _, rfl, lp, -, h⟩ := matchesAt_append_exists m1
  obtain ⟨n12, _, rfl, ln, -, h⟩ := matchesAt_append_exists h
  obtain ⟨S, _, rfl, lS, mS, h⟩ := matchesAt_append_exists h
  obtain ⟨x, o5, rfl, lx, mx, m5⟩ := matchesAt_append_exists h
  obtain ⟨o3, _, rfl, l3, m3, h⟩ := matchesAt_append_exists m2
  obtain ⟨y, _, rfl, ly, my, h⟩ := matchesAt_append_exists h
  obtain ⟨GA, _, rfl, lG, mG, h⟩ := matchesAt_append_exists h
  obtain ⟨gacc, r, rfl, lg, mg, -⟩ := matchesAt_append_exists h
  simp only [List.length_cons, List.length_nil, Nat.zero_add, Nat.reduceAdd] at lp ln lS lx l3 ly lG lg
  have l5 : o5.length = 4 := by
    rw [show width ytkHead = 20 from rfl] at l1; simp only [List.length_append, lp, ln, lS, lx] at l1; omega
  -- the text is `p7 · [n12 S x o5 t o3 y GA] · gacc · rest`; the bracket ends where the tail's first mark falls,
  -- written as `fmarks` computes it so that the marks below agree by `rfl`
  have hb : (p7 ++ (n12 ++ S ++ x ++ o5 ++ t ++ o3 ++ y ++ GA)).length = 0 + width ytkHead + t.length + 7 := by
    rw [show width ytkHead = 20 from rfl]; simp only [List.length_append, lp, ln, lS, lx, l5, l3, ly, lG]; omega
  have hmid : p7 ++ (n12 ++ (S ++ (x ++ o5))) ++ t ++ (o3 ++ (y ++ (GA ++ (gacc ++ r)))) ++ R =
      p7 ++ (n12 ++ S ++ x ++ o5 ++ t ++ o3 ++ y ++ GA) ++ (gacc ++ (r ++ R)) := by simp only [List.append_assoc]
  have hacc : p7 ++ (n12 ++ (S ++ (x ++ o5))) ++ t ++ (o3 ++ (y ++ (GA ++ (gacc ++ r)))) ++ R =
      (p7 ++ (n12 ++ S ++ x ++ o5 ++ t ++ o3 ++ y ++ GA)) ++ gacc ++ (r ++ R) := by simp only [List.append_assoc]
  refine ⟨_, n12, S, x, o5, t, o3, y, GA, rfl, ?_, ?_, ln, lS, mS, lx, l5, l3, ly, lG, mG, ?_, ?_⟩
  · rw [hacc, List.length_append, List.length_append, hb, lg]; omega
  · rw [hmid, ← hb, ← lp]; exact slice_mid _ _ _
  · rw [hacc, ← hb, ← lg, ← List.length_append, slice_mid]; exact mg
  · simp only [C01.Plain_append]
    exact ⟨⟨⟨⟨C01.Plain_of_matchesAt (by simp) mx lx, C01.Plain_of_matchesAt (by simp) m5 l5⟩, pt⟩,
      C01.Plain_of_matchesAt (by simp) m3 l3⟩, C01.Plain_of_matchesAt (by simp) my ly⟩

/-- **the YTK pair**: the product of a YTK product module inserted in a vector whose upstream overhang has the
key of the module's downstream overhang (`upv`, then the rest `B` of the vector's fragment) is — read from the
`GG` of the module's upstream overhang — a well-formed BsaI module `S·x·o5·t·o3·y·S'·b`: the next level's site,
spacer, overhang, the template, overhang, spacer, reverse site.  Hence (`C01.module_canonical`) the next-level
class accepts it at every rotation and its target `o5·t` contains the whole template, provided the template has
at least two letters and the product carries the BsaI structure once and passes the screen -/
theorem ytk_pair {text : Word} {ms : List Nat} {e : Nat} (h : Run ytkProductPat text 0 ms e) (upv B : Word)
    (hup : NtEq upv (slice text (ms.getD 3 0) (ms.getD 3 0 + 4))) :
    ∃ n12 S x o5 t o3 y S',
      slice text 7 (ms.getD 3 0) ++ upv ++ B = rotr (S ++ x ++ o5 ++ t ++ o3 ++ y ++ S' ++ (B ++ n12)) 2 ∧
      matchesAt bsaI.site S ∧ S.length = bsaI.site.length ∧
      matchesAt (rcNt bsaI.site) S' ∧ S'.length = bsaI.site.length ∧
      x.length = bsaI.off ∧ y.length = bsaI.off ∧ o5.length = bsaI.k ∧ o3.length = bsaI.k ∧
      C01.Plain (x ++ o5 ++ t ++ o3 ++ y) ∧
      (2 ≤ t.length →
        UniqueFit (moduleStructure bsaI) (S ++ x ++ o5 ++ t ++ o3 ++ y ++ S' ++ (B ++ n12)) →
        validCuts bsaI (S ++ x ++ o5 ++ t ++ o3 ++ y ++ S') ≤ 2 →
        ∀ r, C02.report { kind := .module, pat := moduleStructure bsaI, geom := bsaI }
          (rotr (S ++ x ++ o5 ++ t ++ o3 ++ y ++ S' ++ (B ++ n12)) r) = .ok (o5, o3, o5 ++ t, o5 ++ t)) := by
  obtain ⟨b2, n12, S, x, o5, t, o3, y, GA, hms, hb2, hsl, l0, lS, mS, lx, l5, l3, ly, lGA, mGA, mG3, hpl⟩ :=
    ytk_product_layout h
  have hb : ms.getD 3 0 = b2 := by rw [hms]; rfl
  rw [hb] at hup ⊢
  have hupl : upv.length = 4 := by
    rw [hup.length, slice_length _ _ _ (by omega) hb2]; omega
  have mS' : matchesAt (rcNt bsaI.site) (GA ++ upv) := by
    have : rcNt bsaI.site = [.G, .A] ++ [.G, .A, .C, .C] := by decide
    rw [this]
    exact matchesAt_append mGA lGA (matchesAt_ntEq hup.symm mG3)
  refine ⟨n12, S, x, o5, t, o3, y, GA ++ upv, ?_, mS, by rw [lS]; rfl, mS', by simp [lGA, hupl, bsaI], lx, ly, l5, l3,
    hpl, ?_⟩
  · rw [hsl]
    have := rotr_append_length (S ++ x ++ o5 ++ t ++ o3 ++ y ++ (GA ++ upv) ++ B) n12
    rw [l0] at this
    rw [← List.append_assoc _ B n12, this]
    simp [List.append_assoc]
  · intro ht hfit hscreen r
    exact C01.module_canonical bsaI S x o5 t o3 y (GA ++ upv) (B ++ n12) mS (by rw [lS]; rfl) mS'
      (by simp [lGA, hupl, bsaI]) lx ly l5 l3 ht hpl hfit hscreen r

end Moclo

namespace Moclo.C11
open Moclo

theorem kit_vectors_next_level : Generated.nextLevelPairs.all (fun ij =>
    match Generated.kits[ij.1]?, Generated.kits[ij.2]? with
    | some v, some m => nextLevelOK (Tables.KitRow.geom m) v.k v.pat && (m.pat == moduleStructure (Tables.KitRow.geom m))
    | _, _ => false) = true := Tables.kits_nextLevel

theorem matches3 {A B C : List Nt} {l : Word} (h : matchesAt (A ++ B ++ C) l) (hl : l.length = (A ++ B ++ C).length) :
    ∃ x y z, l = x ++ y ++ z ∧ x.length = A.length ∧ y.length = B.length ∧ z.length = C.length ∧
      matchesAt A x ∧ matchesAt B y ∧ matchesAt C z := by
  obtain ⟨xy, z, rfl, lxy, mxy, mz⟩ := matchesAt_append_exists h
  obtain ⟨x, y, rfl, lx, mx, my⟩ := matchesAt_append_exists mxy
  simp only [List.length_append] at lxy hl
  exact ⟨x, y, z, rfl, lx, by omega, by omega, mx, my, mz⟩

/-- **what a vector with the next-level layout keeps around its insertion point**: in any fit of such a
structure on a window `text`, with `a1` the start of group 1 and `b2 + k` the end of group 3, the letters
before group 1 are `S·X·OV` and the letters after group 3 (up to the end `e` of the match) are `OV'·Y·S'`, with
`S` recognised as the next-level site, `S'` as its reverse complement, `|X| = |Y| = off'`, all of `X OV OV' Y`
wildcard-compatible, and `OV`, `OV'` either both empty (and `k = k'`) or both of length `k'` -/
theorem vector_flanks {g' : Geom} {k : Nat} {p : Pat} {text : Word} {ms : List Nat} {e : Nat}
    (hok : nextLevelOK g' k p = true) (h : Run p text 0 ms e) :
    ∃ a1 b2 S X OV OV' Y S',
      ms = [a1, a1 + k, a1 + k, b2, b2, b2 + k] ∧ a1 + k ≤ b2 ∧ b2 + k ≤ e ∧
      text.take a1 = S ++ X ++ OV ∧ (text.drop (b2 + k)).take (e - (b2 + k)) = OV' ++ Y ++ S' ∧
      matchesAt g'.site S ∧ S.length = g'.site.length ∧ matchesAt (rcNt g'.site) S' ∧ S'.length = g'.site.length ∧
      X.length = g'.off ∧ Y.length = g'.off ∧ C01.Plain (X ++ OV) ∧ C01.Plain (OV' ++ Y) ∧
      ((OV = [] ∧ OV' = [] ∧ k = g'.k) ∨ (OV.length = g'.k ∧ OV'.length = g'.k)) := by
  unfold nextLevelOK at hok
  split at hok
  · cases hok
  rename_i pre g1 g2 g3 suf hs
  simp only [Bool.and_eq_true, Bool.or_eq_true, beq_iff_eq] at hok
  obtain ⟨⟨rfl, rfl⟩, hshape⟩ := hok
  obtain ⟨rfl, mpre, -, mg2, -, msuf⟩ := splitGroups_sound hs
  obtain ⟨a1, b2, hms, hle1, hle2, rpre, -, -, -, rsuf⟩ :=
    threeGroup_run mpre mg2 msuf (isFixed_nRun k) (isFixed_nRun k) h
  -- both shapes at once: `xo` next-level overhang letters outside the groups (0 or k')
  obtain ⟨xo, rfl, rfl, hxo⟩ : ∃ xo, pre = lits g'.site ++ nRun g'.off ++ nRun xo ∧
      suf = nRun xo ++ nRun g'.off ++ lits (rcNt g'.site) ∧ ((xo = 0 ∧ k = g'.k) ∨ xo = g'.k) := by
    rcases hshape with ⟨⟨a, b⟩, c⟩ | ⟨a, b⟩
    · exact ⟨0, by simpa [nRun] using a, by simpa [nRun] using b, Or.inl ⟨rfl, c⟩⟩
    · exact ⟨g'.k, a, b, Or.inr rfl⟩
  obtain ⟨hpt, hpl⟩ := rpre.fixed_take (by simp)
  obtain ⟨hst, hsl⟩ := rsuf.fixed_take (by simp)
  simp only [letters_append, letters_lits, letters_nRun, Nat.sub_zero] at hpt hpl hst hsl
  obtain ⟨S, X, OV, e1, l1, l2, l3, m1, m2, m3⟩ := matches3 hpt hpl
  obtain ⟨OV', Y, S', e2, k1, k2, k3, n1, n2, n3⟩ := matches3 hst hsl
  refine ⟨a1, b2, S, X, OV, OV', Y, S', hms, hle1, hle2, e1, e2, m1, l1, n3, by rw [k3, rcNt_length],
    l2.trans List.length_replicate, k2.trans List.length_replicate, ?_, ?_, ?_⟩
  · exact (C01.Plain_append _ _).mpr ⟨C01.Plain_of_matchesAt (by simp) m2 l2, C01.Plain_of_matchesAt (by simp) m3 l3⟩
  · exact (C01.Plain_append _ _).mpr ⟨C01.Plain_of_matchesAt (by simp) n1 k1, C01.Plain_of_matchesAt (by simp) n2 k2⟩
  · rw [List.length_replicate] at l3 k1
    rcases hxo with ⟨rfl, hk⟩ | rfl
    · exact Or.inl ⟨List.length_eq_zero_iff.mp l3, List.length_eq_zero_iff.mp k1, hk⟩
    · exact Or.inr ⟨l3, k1⟩

/-- **the product is a well-formed next-level module**: reading the product from the next-level site, it is
`S·X·o5·t·o3·Y·S'·rest` with `o5·t` containing the whole insert (first overhang `O1`, then every module target
body in chain order, `body`), for either layout; `C01.module_canonical` for the next level's geometry then
gives acceptance, overhangs and target at every rotation -/
theorem product_shape {g' : Geom} {k : Nat} {OV OV' : Word} (O1 body O3 : Word)
    (hO1 : O1.length = k) (hO3 : O3.length = k)
    (hov : (OV = [] ∧ OV' = [] ∧ k = g'.k) ∨ (OV.length = g'.k ∧ OV'.length = g'.k)) :
    ∃ o5 t o3, OV ++ O1 ++ body ++ O3 ++ OV' = o5 ++ t ++ o3 ∧ o5.length = g'.k ∧ o3.length = g'.k ∧
      ∃ u v, o5 ++ t = u ++ (O1 ++ body) ++ v := by
  rcases hov with ⟨rfl, rfl, hk⟩ | ⟨h1, h2⟩
  · exact ⟨O1, body, O3, by simp, by omega, by omega, [], [], by simp⟩
  · exact ⟨OV, O1 ++ body ++ O3, OV', by simp [List.append_assoc], h1, h2, OV, O3, by simp [List.append_assoc]⟩

/-- the YTK pair as the classes are now (regenerated table): the product's structure is the closed form
`ytkProductPat`, the next-level class (`YTKEntry`) is matched with the generic module structure of BsaI, and
the entry vector's cutter is the product's (BsmBI) -/
theorem ytk_structures :
    (match Generated.kits[Generated.ytkPair.1]?, Generated.kits[Generated.ytkPair.2.1]?,
        Generated.kits[Generated.ytkPair.2.2]? with
     | some v, some prod, some nxt =>
        (prod.pat == ytkProductPat) && (nxt.pat == moduleStructure bsaI) && (nxt.site == bsaI.site) &&
        (nxt.off == bsaI.off) && (nxt.k == bsaI.k) && (v.site == prod.site) && (v.k == 4) && (prod.k == 4)
     | _, _, _ => false) = true := Tables.kits_ytk

/-- what any fit of `YTKProduct.structure()` reads -/
theorem ytk_product_layout {text : Word} {ms : List Nat} {e : Nat} (h : Run ytkProductPat text 0 ms e) :
    ∃ b2 n12 S x o5 t o3 y GA,
      ms = [7, 11, 11, b2, b2, b2 + 4] ∧ b2 + 4 ≤ text.length ∧
      slice text 7 b2 = n12 ++ S ++ x ++ o5 ++ t ++ o3 ++ y ++ GA ∧
      n12.length = 2 ∧ S.length = 6 ∧ matchesAt [.G, .G, .T, .C, .T, .C] S ∧
      x.length = 1 ∧ o5.length = 4 ∧ o3.length = 4 ∧ y.length = 1 ∧ GA.length = 2 ∧ matchesAt [.G, .A] GA ∧
      matchesAt [.G, .A, .C, .C] (slice text b2 (b2 + 4)) ∧ C01.Plain (x ++ o5 ++ t ++ o3 ++ y) :=
  Moclo.ytk_product_layout h

/-- **the YTK pair**: module fragment `text[7, b2)` (upstream overhang and target of the product), then the
vector's fragment `upv · B` whose upstream overhang has the key of the product's downstream overhang: the
product is a well-formed BsaI module, accepted by the next-level class at every rotation with the template
inside its target -/
theorem ytk_pair {text : Word} {ms : List Nat} {e : Nat} (h : Run ytkProductPat text 0 ms e) (upv B : Word)
    (hup : NtEq upv (slice text (ms.getD 3 0) (ms.getD 3 0 + 4))) :
    ∃ n12 S x o5 t o3 y S',
      slice text 7 (ms.getD 3 0) ++ upv ++ B = rotr (S ++ x ++ o5 ++ t ++ o3 ++ y ++ S' ++ (B ++ n12)) 2 ∧
      matchesAt bsaI.site S ∧ S.length = bsaI.site.length ∧
      matchesAt (rcNt bsaI.site) S' ∧ S'.length = bsaI.site.length ∧
      x.length = bsaI.off ∧ y.length = bsaI.off ∧ o5.length = bsaI.k ∧ o3.length = bsaI.k ∧
      C01.Plain (x ++ o5 ++ t ++ o3 ++ y) ∧
      (2 ≤ t.length →
        UniqueFit (moduleStructure bsaI) (S ++ x ++ o5 ++ t ++ o3 ++ y ++ S' ++ (B ++ n12)) →
        validCuts bsaI (S ++ x ++ o5 ++ t ++ o3 ++ y ++ S') ≤ 2 →
        ∀ r, C02.report { kind := .module, pat := moduleStructure bsaI, geom := bsaI }
          (rotr (S ++ x ++ o5 ++ t ++ o3 ++ y ++ S' ++ (B ++ n12)) r) = .ok (o5, o3, o5 ++ t, o5 ++ t)) :=
  Moclo.ytk_pair h upv B hup

/-- **a product is a well-formed input of the next assembly as far as its citations go**: the first thing
`assemble` does with each input is to dereference its `/citation` numbers against its reference list, and an
input on which that fails ends the call with an internal error; on the product of any successful assembly it
succeeds — whatever the number of papers the inputs cited together -/
theorem product_enters_next_level {v : Ent} {mods : List Ent} {pid pname : Nat} {p : Product} {after : List Rec}
    (h : assemble v mods pid pname = (.ok p, after)) : (derefRec p.rcd).isSome := by
  obtain ⟨pre, _, _, hd⟩ := product_derefs h
  rw [hd]; rfl

end Moclo.C11
