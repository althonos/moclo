import Moclo.Proofs.Rc
import Moclo.Proofs.Feature
/-!
# C14 — reverse complement of a circular record stays circular and loses nothing

Model: `Moclo.rc` (sequence), `Part.flip`/`Feature.flip` (Biopython `_flip`), `Rec.rc`.
"Is again a `CircularRecord`" is a Python type fact: decided by the oracle on the implementation only.
`reading` / `partReading` (the nucleotides of a feature in the order it reads them) are defined here; C13 uses them for
the reading order under rotation.
-/
namespace Moclo.C14
open Moclo

/-- applying reverse complement twice gives back the original sequence -/
theorem rc_rc (w : Word) : rc (rc w) = w := Moclo.rc_rc w

-- the bound proof inside the statement of `rc_getElem` is written with this lemma
theorem rc_length (w : Word) : (rc w).length = w.length := Moclo.rc_length w

/-- the sequence is the reverse complement: letter `i` of the result is the complement of letter
`n-1-i` of the original -/
theorem rc_getElem (w : Word) (i : Nat) (hi : i < w.length) :
    (rc w)[i]'(by rw [rc_length]; exact hi) = (w[w.length - 1 - i]'(by omega)).compl := by
  unfold rc
  rw [List.getElem_reverse]
  simp

/-- reverse-complementing commutes with rotation: the reverse complement of a right rotation is the
left rotation of the reverse complement -/
theorem rc_rotr (w : Word) (k : Int) : rc (rotrI w k) = rotlI (rc w) k := by
  rw [rotlI_eq_rotate, Moclo.rc_length]
  exact Moclo.rc_rotr w _

/-- every feature part denotes the mirrored nucleotides, on the opposite strand, also for coordinates
past the end or negative -/
theorem feature_part_mirrored (n : Nat) (p : Part) (x : Nat) (hx : x < n) :
    (p.flip n).strand = -p.strand ∧ ((p.flip n).covers n (n - 1 - x) ↔ p.covers n x) :=
  ⟨rfl, covers_flip n p x hx⟩

/-- flipping twice restores every part exactly -/
theorem feature_part_flip_flip (n : Nat) (p : Part) : (p.flip n).flip n = p := flip_flip n p

/-- a feature keeps type, qualifiers and citations; its parts are the flipped parts (in reversed
order only when every part is strandless) -/
theorem feature_flip (n : Nat) (f : Feature) :
    (f.flip n).ftype = f.ftype ∧ (f.flip n).qual = f.qual ∧ (f.flip n).cites = f.cites ∧
    ((f.flip n).parts = f.parts.map (Part.flip n) ∨ (f.flip n).parts = (f.parts.map (Part.flip n)).reverse) :=
  ⟨rfl, rfl, rfl, (ite_eq_or_eq _ _ _).symm⟩

/-- **flipping a feature twice gives the feature back exactly** — the parts in their listed order too: the order
of the parts of a join is the order of its exons, part of what the feature denotes -/
theorem feature_flip_flip (n : Nat) (f : Feature) : (f.flip n).flip n = f := by
  obtain ⟨ftype, qual, parts, cites⟩ := f
  have key : ∀ ps : List Part, (ps.map (Part.flip n)).map (Part.flip n) = ps := fun ps => by
    simp only [List.map_map, Function.comp_def, flip_flip, List.map_id']
  -- flipped parts are as many, and strandless exactly when the parts are: both flips take the same branch
  have hall : ∀ ps : List Part, (ps.map (Part.flip n)).all (·.strand = 0) = ps.all (·.strand = 0) := fun ps => by
    simp only [List.all_map, Function.comp_def, Part.flip, Int.neg_eq_zero]
  unfold Feature.flip
  by_cases hc : parts.length > 1 ∧ parts.all (·.strand = 0) = true
  · simp only [hc, and_self, if_true, List.length_reverse, List.length_map, List.all_reverse, hall,
      List.map_reverse, List.reverse_reverse, key]
  · simp only [hc, if_false, List.length_map, hall, key]

/-- so the multiset of parts after two flips is the original one -/
theorem feature_flip_flip_perm (n : Nat) (f : Feature) :
    ((f.flip n).flip n).parts.Perm f.parts := by
  rw [feature_flip_flip]

/-- `s, s+1, …` (`k` positions) and `e-1, e-2, …` (`k` positions) -/
def ascI (s : Int) : Nat → List Int
  | 0 => []
  | k + 1 => s :: ascI (s + 1) k
def descI (e : Int) : Nat → List Int
  | 0 => []
  | k + 1 => (e - 1) :: descI (e - 1) k

theorem ascI_eq : ∀ (k : Nat) (s : Int), ascI s k = (List.range k).map (fun (i : Nat) => s + i)
  | 0, _ => rfl
  | k + 1, s => by
    rw [ascI, ascI_eq k, List.range_succ_eq_map, List.map_cons, List.map_map]
    refine congrArg₂ _ (by simp) (List.map_congr_left fun i _ => ?_)
    simp only [Function.comp, Nat.succ_eq_add_one, Int.natCast_add]; omega

theorem descI_eq : ∀ (k : Nat) (e : Int), descI e k = (List.range k).map (fun (i : Nat) => e - 1 - i)
  | 0, _ => rfl
  | k + 1, e => by
    rw [descI, descI_eq k, List.range_succ_eq_map, List.map_cons, List.map_map]
    refine congrArg₂ _ (by simp) (List.map_congr_left fun i _ => ?_)
    simp only [Function.comp, Nat.succ_eq_add_one, Int.natCast_add]; omega

/-- the nucleotides of a part in the order the feature reads them (its own 5'→3'): a minus-strand part from its end
to its start -/
def partReading (p : Part) : List (Int × Int) :=
  if p.strand = -1 then (descI p.e (p.e - p.s).toNat).map (fun t => (t, p.strand))
  else (ascI p.s (p.e - p.s).toNat).map (fun t => (t, p.strand))

/-- … and of a feature: its parts in listed order -/
def reading (f : Feature) : List (Int × Int) := f.parts.flatMap partReading

theorem partReading_eq (p : Part) : partReading p = (List.range (p.e - p.s).toNat).map
    (fun (i : Nat) => (if p.strand = -1 then p.e - 1 - i else p.s + i, p.strand)) := by
  unfold partReading
  split <;> rename_i h <;> simp only [h, ascI_eq, descI_eq, List.map_map] <;> rfl

theorem partReading_shift (p : Part) (c : Int) :
    partReading (p.shift c) = (partReading p).map (fun x => (x.1 + c, x.2)) := by
  rw [partReading_eq, partReading_eq, List.map_map,
    show ((p.shift c).e - (p.shift c).s).toNat = (p.e - p.s).toNat from
      congrArg Int.toNat (Int.add_sub_add_right p.e c p.s)]
  refine List.map_congr_left fun i _ => ?_
  simp only [Part.shift, Function.comp, Prod.mk.injEq, and_true]
  split <;> omega

theorem partReading_flip (n : Nat) (p : Part) (hs : p.strand = 1 ∨ p.strand = -1) :
    partReading (p.flip n) = (partReading p).map (fun x => ((n : Int) - 1 - x.1, -x.2)) := by
  rw [partReading_eq, partReading_eq, List.map_map,
    show ((p.flip n).e - (p.flip n).s).toNat = (p.e - p.s).toNat by simp only [Part.flip]; congr 1; omega]
  refine List.map_congr_left fun i _ => ?_
  simp only [Part.flip, Function.comp, Prod.mk.injEq, and_true]
  rcases hs with h | h <;> simp [h] <;> omega

/-- **a stranded feature of the reverse complement reads the mirrored nucleotides in the same order**: the exons of a
join stay in their order, each read on the other strand -/
theorem reading_order_mirrored (n : Nat) (f : Feature) (hs : ∀ p ∈ f.parts, p.strand = 1 ∨ p.strand = -1) :
    reading (f.flip n) = (reading f).map (fun x => ((n : Int) - 1 - x.1, -x.2)) := by
  -- with a stranded part among them the parts are not all strandless: the order is kept
  have hparts : (f.flip n).parts = f.parts.map (Part.flip n) := by
    refine if_neg fun hc => ?_
    obtain ⟨p, hp⟩ := List.exists_mem_of_length_pos (Nat.lt_of_succ_lt hc.1)
    have := of_decide_eq_true (List.all_eq_true.mp hc.2 p hp)
    rcases hs p hp with h | h <;> omega
  unfold reading
  rw [hparts, List.flatMap_map, List.map_flatMap]
  exact List.flatMap_congr fun p hp => partReading_flip n p (hs p hp)

/-! non-vacuity: an origin-spanning join listed out of coordinate order keeps its exon order -/
example : reading (Feature.flip 10 ⟨1, .user 0, [⟨8, 10, 1⟩, ⟨0, 2, 1⟩], []⟩)
    = [(1, -1), (0, -1), (9, -1), (8, -1)] := by decide

/-- the record: sequence reverse-complemented, one flipped feature per feature (re-sorted) -/
theorem record_rc (r : Rec) :
    r.rc.seq = rc r.seq ∧ r.rc.feats.Perm (r.feats.map (Feature.flip r.seq.length)) :=
  ⟨rfl, sortByLo_perm _⟩

example : rc [⟨.A, false⟩, ⟨.C, true⟩, ⟨.R, false⟩] = [⟨.Y, false⟩, ⟨.G, true⟩, ⟨.T, false⟩] := by decide
/-- a part left past the end by a rotation, `[4, 7)` on a 5-mer (positions 4,0,1), flips to `[-2, 1)`
(positions 3,4,0 = mirrored) -/
example : (⟨4, 7, 1⟩ : Part).flip 5 = ⟨-2, 1, -1⟩ := by decide

end Moclo.C14
