import Moclo.Model.Cache
/-!
# C06 — typing verdicts do not depend on what was typed before

Model: `cacheQuery` (`StructuredRecord._get_regex` with the cache owned by the class asked).
The theorems hold for any set of classes and any `structure` function, i.e. for any hierarchy.
-/
namespace Moclo.C06
open Moclo
variable {C P : Type} [DecidableEq C]

def Inv (struc : C → P) (st : CState C P) : Prop := ∀ c p, cacheGet st c = some p → p = struc c

theorem inv_init (struc : C → P) : Inv struc ([] : CState C P) := nofun

theorem cacheGet_cons (st : CState C P) (c d : C) (p : P) :
    cacheGet ((d, p) :: st) c = if d = c then some p else cacheGet st c := by
  unfold cacheGet
  simp only [List.find?_cons]
  by_cases h : d = c <;> simp [h]

theorem inv_query (struc : C → P) (st : CState C P) (c : C) (h : Inv struc st) :
    Inv struc (cacheQuery struc st c).1 ∧ (cacheQuery struc st c).2 = struc c := by
  unfold cacheQuery
  cases hg : cacheGet st c with
  | some p => exact ⟨h, h c p hg⟩
  | none =>
    refine ⟨fun d q hq => ?_, rfl⟩
    rw [cacheGet_cons] at hq
    split at hq
    · cases hq; subst_vars; rfl
    · exact h d q hq

theorem inv_run (struc : C → P) (st : CState C P) (hist : List C) (h : Inv struc st) :
    Inv struc (cacheRun struc st hist) :=
  List.foldlRecOn hist _ h fun s hs c _ => (inv_query struc s c hs).1

/-- **history independence**: after any sequence of earlier queries, over any classes in any order, the
pattern a class is matched with is its own structure — the same as when it is asked first -/
theorem history_independent (struc : C → P) (hist : List C) (c : C) :
    (cacheQuery struc (cacheRun struc [] hist) c).2 = (cacheQuery struc [] c).2 :=
  (inv_query struc _ c (inv_run struc [] hist (inv_init struc))).2

/-- hence every verdict of a history equals the verdict of the same call issued first — whatever the other
records were, in particular records with the same letters but another topology -/
theorem verdicts_independent (spec : C → ClassSpec) (st : CState C Pat)
    (h : Inv (fun c => (spec c).pat) st) (hist : List (C × Word × Bool)) :
    histVerdicts spec st hist = hist.map (fun q => (spec q.1).isValidC q.2.1 q.2.2) := by
  induction hist generalizing st with
  | nil => rfl
  | cons q qs ih =>
    obtain ⟨c, w, circ⟩ := q
    obtain ⟨h1, h2⟩ := inv_query (fun c => (spec c).pat) st c h
    simp only [histVerdicts, List.map_cons, ih _ h1, h2]

theorem verdicts_fresh (spec : C → ClassSpec) (hist : List (C × Word × Bool)) :
    histVerdicts spec [] hist = hist.map (fun q => (spec q.1).isValidC q.2.1 q.2.2) :=
  verdicts_independent spec [] (inv_init _) hist

theorem isValidC_circular (c : ClassSpec) (w : Word) : c.isValidC w true = c.isValid w := by
  unfold ClassSpec.isValidC ClassSpec.isValid ClassSpec.matchSeq
  cases search c.pat w true with
  | none => rfl
  | some m =>
    simp only []
    by_cases hc : validCuts c.geom (m.group w 0) > 2 <;> simp [hc]

/-- **automatic typing does not depend on the past either**: from any state the validations and
characterisations made so far can have left (`Inv`), `characterize` over a family answers with the first
candidate that accepts the record — the pure function `Moclo.characterize` of the typing model — and leaves a
state that still satisfies the invariant -/
theorem characterize_independent (spec : C → ClassSpec) (cands : List C) (w : Word) :
    ∀ (st : CState C Pat) (i : Nat), Inv (fun c => (spec c).pat) st →
      (charRun spec st cands w i).2 = (characterize (cands.map spec) w).map (· + i) ∧
      Inv (fun c => (spec c).pat) (charRun spec st cands w i).1 := by
  induction cands with
  | nil => intro st i h; exact ⟨rfl, h⟩
  | cons c cs ih =>
    intro st i h
    obtain ⟨hinv, hp⟩ := inv_query (fun c => (spec c).pat) st c h
    rw [charRun, hp, show ({ (spec c) with pat := (spec c).pat } : ClassSpec) = spec c from rfl, isValidC_circular,
      characterize, List.map_cons, List.findIdx?_cons]
    split
    · exact ⟨by simp, hinv⟩
    · refine ⟨?_, (ih _ (i + 1) hinv).2⟩
      rw [(ih _ (i + 1) hinv).1, characterize, Option.map_map]
      congr 1; funext j; exact Nat.add_right_comm j i 1

/-- in particular after any history of validation calls, from a fresh interpreter -/
theorem characterize_after_history (spec : C → ClassSpec) (hist : List C) (cands : List C) (w : Word) :
    (charRun spec (cacheRun (fun c => (spec c).pat) [] hist) cands w 0).2 = characterize (cands.map spec) w := by
  rw [(characterize_independent spec cands w _ 0 (inv_run _ [] hist (inv_init _))).1]
  cases characterize (cands.map spec) w <;> rfl

/-- the statement is not vacuous: resolving the cache through the parents (the shape of the defect found
on the pinned tree) breaks it on a two-class hierarchy — class 1 derives from class 0, priming the parent
changes what the child is matched with -/
theorem inherited_cache_counterexample :
    let struc : Nat → Nat := fun c => c + 10
    let mro : Nat → List Nat := fun c => if c = 1 then [1, 0] else [c]
    (cacheQueryInherited struc mro (cacheQueryInherited struc mro [] 0).1 1).2
      ≠ (cacheQueryInherited struc mro [] 1).2 := by decide

end Moclo.C06
