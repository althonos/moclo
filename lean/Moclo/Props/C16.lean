import Moclo.Proofs.Search
import Moclo.Proofs.Priority
import Moclo.Tables.Lettermap
/-!
# C16 — DNA pattern search has exact IUPAC, circular and group-extraction semantics

Model: `clsMatch` (`DNARegex._lettermap` + `(?i)`), `matchToks` (Python `re` on the fragment
letters / flat groups / `X*` / `X*?`), `search`, `group` (`SeqMatch.group`).  The letter table is tied
to the code by the regenerated table `Generated/Lettermap.lean` (`Tables.lettermap_eq_model`).
-/
namespace Moclo.C16
open Moclo

/-- each IUPAC letter in a pattern matches exactly its set of nucleotides, in either letter case -/
theorem lettermap_exact (p : Nt) (x : Sym) (hx : x.nt.isBase = true) :
    clsMatch p x = (iupac p).contains x.nt := by
  -- the two tables differ only in that `N` also stands for the letter `N`, which is not a nucleotide
  cases p
  case N => obtain ⟨nt, lo⟩ := x; cases nt <;> first | rfl | cases hx
  all_goals rfl

/-- case is irrelevant -/
theorem lettermap_case (p : Nt) (x : Sym) : clsMatch p x.upper = clsMatch p x := rfl

/-- the table extracted from the running code is exactly the graph of the model's `clsMatch` -/
theorem code_table_is_model : Generated.lettermapTable = Tables.modelTable := Tables.lettermap_eq_model

/-- the anchored matcher succeeds exactly when the pattern fits for some choice of run lengths -/
theorem matcher_sound_complete (ts : Pat) (xs : Word) :
    (matchToks ts xs 0 []).isSome ↔ ∃ n, Fits ts xs n := matchToks_isSome_iff ts xs 0 []

/-- a search returns the leftmost start of the requested range at which the pattern matches -/
theorem search_leftmost {p : Pat} {w : Word} {c : Bool} {pos : Nat} {ep : Option Nat} {m : Match}
    (h : search p w c pos ep = some m) :
    pos ≤ m.start ∧ m.start < searchHi w ep ∧ FitsAt p w c m.start ∧
      ∀ j, pos ≤ j → j < m.start → ¬ FitsAt p w c j := Moclo.search_leftmost h

/-- … and reports no match only when the pattern matches at no start of the range -/
theorem search_none_iff {p : Pat} {w : Word} {c : Bool} {pos : Nat} {ep : Option Nat} :
    search p w c pos ep = none ↔ ∀ j, pos ≤ j → j < searchHi w ep → ¬ FitsAt p w c j :=
  Moclo.search_none_iff

/-- the text matched against at start `i` of a circular target is the rotation of the record by `i`:
the match may run past the end and continue at the beginning -/
theorem circular_text_is_rotation (w : Word) (i : Nat) (hi : i ≤ w.length) :
    textAt w true i = w.rotate i := by
  unfold textAt; simpa [window] using window_eq_rotate w i hi

/-- on a linear target the text is the suffix from `i` -/
theorem linear_text_is_suffix (w : Word) (i : Nat) : textAt w false i = w.drop i := by
  unfold textAt; simp

/-- a match never covers more than one full turn; on a linear target it never passes the end -/
theorem search_one_turn {p : Pat} {w : Word} {c : Bool} {pos : Nat} {ep : Option Nat} {m : Match}
    (h : search p w c pos ep = some m) :
    m.start ≤ m.stop ∧ m.stop - m.start ≤ w.length ∧ (c = false → m.stop ≤ w.length) :=
  Moclo.search_one_turn h

/-- every group asked for as a sequence is exactly the text of its span in the doubled string,
wherever the span lies (in particular when it crosses the origin) -/
theorem group_is_matched_text (w : Word) (a b : Nat) (hab : a ≤ b) (hb : b < 2 * w.length)
    (hlen : b - a ≤ w.length) : group w a b = ((w ++ w).drop a).take (b - a) :=
  group_spec w a b hb

/-- **which fit is reported when several exist at the leftmost start**: the one of highest priority in the
order of Python's backtracking `re` — every wildcard run, in pattern order, takes the most preferred length
(longest if greedy, shortest if lazy) for which the rest of the pattern still fits; that fit is unique, and the
reported marks are the start, its group boundaries and its end (relative to the start of the text) -/
theorem search_priority {p : Pat} {w : Word} {c : Bool} {pos : Nat} {ep : Option Nat} {m : Match}
    (h : search p w c pos ep = some m) :
    ∃ ms e, Best p (textAt w c m.start) 0 ms e ∧ m.marks = m.start :: ((ms ++ [e]).map (· + m.start)) ∧
      ∀ ms' e', Best p (textAt w c m.start) 0 ms' e' → ms' = ms ∧ e' = e := by
  obtain ⟨i, rel, _, _, hrel, rfl, _⟩ := search_eq_some_iff.mp h
  obtain ⟨ms, e, hb, hr⟩ := relMatch_eq_some_iff.mp hrel
  exact ⟨ms, e, hb, by rw [← hr]; rfl, fun ms' e' hb' => hb'.unique hb⟩

/-- conversely the anchored matcher finds the fit of highest priority whenever the pattern fits at all -/
theorem matcher_finds_best {p : Pat} {xs : Word} {ms : List Nat} {e : Nat} (h : Best p xs 0 ms e) :
    relMatch p xs = some (e :: ms.reverse) :=
  relMatch_eq_some_iff.mpr ⟨ms, e, h, by simp⟩

/-! non-vacuity: the D1 witness — `AA(NN)` on `TGCAGCATAAG` searched circularly matches at 8 and group 1,
spanning the origin, is `GT` (the pinned code returned `TG`). -/
example :
    let w : Word := [.T,.G,.C,.A,.G,.C,.A,.T,.A,.A,.G].map (fun n => ⟨n, false⟩)
    let p : Pat := [.cls .A, .cls .A, .gopen, .cls .N, .cls .N, .gclose]
    (search p w true).map (fun m => (m.marks, (m.group w 1).map (·.nt))) = some ([8, 10, 12, 12], [.G, .T]) := by
  decide

/-- a greedy run takes all it can, a lazy one as little as it can: `(N*)(N*?)A` on `CAGAT` gives group 1 = `CAG`
(the longest prefix still followed by an `A`), group 2 empty -/
example :
    let w : Word := [.C,.A,.G,.A,.T].map (fun n => ⟨n, false⟩)
    let p : Pat := [.gopen, .star .N true, .gclose, .gopen, .star .N false, .gclose, .cls .A]
    (search p w false).map (·.marks) = some [0, 0, 3, 3, 3, 4] := by
  decide

end Moclo.C16
