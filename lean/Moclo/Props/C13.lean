import Moclo.Proofs.Word
import Moclo.Proofs.Feature
import Moclo.Props.C14
/-!
# C13 — rotation of a circular record is a lossless group action

Model: `Moclo.rotr`/`rotrI`/`rotlI` (`CircularRecord.__rshift__`/`__lshift__` on the sequence and on
per-letter tracks), `Feature.rotr`, `Rec.rotr`.  All statements are for every length, every integer
amount and every letter type.
-/
namespace Moclo.C13
open Moclo
variable {α β : Type}

/-- rotating right by `k ≤ n` moves the last `k` letters to the front -/
theorem rotate_right_moves_last_letters_to_front (w : List α) (k : Nat) (hk : k ≤ w.length) :
    rotr w k = w.drop (w.length - k) ++ w.take (w.length - k) := rotr_spec w k hk

/-- letter `i` of the original sits at `(i + k) mod n` afterwards, for any natural `k` -/
theorem letter_position (w : List α) (k i : Nat) (hi : i < w.length) :
    (rotr w k)[(i + k) % w.length]'(by rw [rotr_length]; exact Nat.mod_lt _ (by omega)) = w[i] :=
  rotr_getElem w k i hi

/-- rotations compose additively, for all integers (negative, zero, larger than the length) -/
theorem rotations_compose (w : List α) (a b : Int) : rotrI (rotrI w a) b = rotrI w (a + b) :=
  rotrI_add w a b

/-- rotation by any multiple of the length is the identity -/
theorem multiple_of_length_is_identity (w : List α) (m : Int) : rotrI w (m * w.length) = w :=
  rotrI_mul_length w m

/-- left rotation is the inverse of right rotation, both ways -/
theorem left_inverts_right (w : List α) (k : Int) : rotlI (rotrI w k) k = w := rotlI_rotrI w k
theorem right_inverts_left (w : List α) (k : Int) : rotrI (rotlI w k) k = w := rotrI_rotlI w k

/-- a per-letter annotation track rotates with the sequence: the value attached to letter `i` is still
attached to it -/
theorem track_follows_sequence (w : List α) (tr : List β) (h : tr.length = w.length) (k i : Nat)
    (hi : i < w.length) :
    (rotr w k)[(i + k) % w.length]'(by rw [rotr_length]; exact Nat.mod_lt _ (by omega)) = w[i] ∧
    (rotr tr k)[(i + k) % w.length]'(by rw [rotr_length, h]; exact Nat.mod_lt _ (by omega)) = tr[i] :=
  ⟨rotr_getElem w k i hi, by simpa only [h] using rotr_getElem tr k i (h ▸ hi)⟩

/-- every part of every feature, whatever its shape or strand (simple, compound, origin-spanning,
coordinates past the end, whole-length `source`), denotes the same nucleotides after `record >> k` -/
theorem feature_follows_sequence (n k : Nat) (f : Feature) :
    (f.rotr n k).ftype = f.ftype ∧ (f.rotr n k).qual = f.qual ∧ (f.rotr n k).cites = f.cites ∧
    (f.rotr n k).parts.length = f.parts.length ∧
    ∀ j (hj : j < f.parts.length) (hj' : j < (f.rotr n k).parts.length),
      ((f.rotr n k).parts[j]).strand = (f.parts[j]).strand ∧
      ∀ x, x < n → (((f.rotr n k).parts[j]).covers n ((x + k) % n) ↔ (f.parts[j]).covers n x) := by
  refine ⟨f.rotr_ftype n k, f.rotr_qual n k, f.rotr_cites n k, ?_⟩
  have hps := f.rotr_parts n k
  generalize (f.rotr n k).parts = ps at hps ⊢
  subst hps
  split
  · rename_i hsrc
    -- the kept `source` covers the whole circle before and after
    obtain ⟨_, hlen, hlo, hhi⟩ := hsrc
    obtain ⟨p, hp⟩ := List.length_eq_one_iff.mp hlen
    have h1 : p.s = 0 := by simpa [Feature.lo, hp, minI] using hlo
    have h2 : p.e = n := by simpa [Feature.hi, hp, maxI] using hhi
    refine ⟨rfl, fun j hj _ => ⟨rfl, fun x hx => ?_⟩⟩
    obtain rfl : j = 0 := by omega
    simp only [hp, List.getElem_cons_zero]
    exact ⟨fun _ => covers_whole n p h1 h2 x hx, fun _ => covers_whole n p h1 h2 _ (Nat.mod_lt _ (by omega))⟩
  · refine ⟨List.length_map _, fun j hj hj' => ?_⟩
    simp only [List.getElem_map]
    obtain ⟨r, hr⟩ := Part.rotr_eq_shift n k f.parts[j]
    exact ⟨hr ▸ rfl, fun x hx => covers_rotr_part n k _ x hx⟩

/-- identifiers, reference list and the number of features are carried over, and the sequence is the
rotated sequence -/
theorem record_carried (r : Rec) (k : Int) :
    (r.rotr k).rid = r.rid ∧ (r.rotr k).refs = r.refs ∧ (r.rotr k).feats.length = r.feats.length ∧
    (r.rotr k).seq = rotrI r.seq k := by
  refine ⟨r.rotr_rid k, r.rotr_refs k, ?_, r.rotr_seq k⟩
  rw [Rec.rotr_feats]; split <;> simp

/-- the features of the rotated record are the rotated features (the record itself is returned when
the amount is a multiple of the length) -/
theorem record_features (r : Rec) (k : Int) :
    (r.rotr k).feats =
      if (k.emod r.seq.length).toNat = 0 then r.feats
      else r.feats.map (Feature.rotr r.seq.length (k.emod r.seq.length).toNat) :=
  Rec.rotr_feats r k

example : rotr [1, 2, 3, 4, 5] 2 = [4, 5, 1, 2, 3] := by decide
example : rotrI [1, 2, 3, 4, 5] (-7) = [3, 4, 5, 1, 2] := by decide
example : rotlI (rotrI [1, 2, 3, 4, 5] 12) 12 = [1, 2, 3, 4, 5] := by decide
/-- an origin-spanning part `[3,5)` of a 5-mer rotated by 3 lands on `[6,8)`, i.e. positions 1,2 -/
example : ((⟨3, 5, 1⟩ : Part).shift 3).renorm 5 = ⟨1, 3, 1⟩ := by decide
example : ((⟨3, 5, 1⟩ : Part).shift 1).renorm 5 = ⟨4, 6, 1⟩ := by decide

open Moclo.C14 in
/-- **the reading order turns with the record**: after `>> k` every feature other than the whole-plasmid `source`
reads, part by part and in the same order, the nucleotides it read before, each moved by `k` around the circle -/
theorem reading_order_rotates (n k : Nat) (f : Feature)
    (hsrc : ¬ (f.ftype = 0 ∧ f.parts.length = 1 ∧ f.lo = 0 ∧ f.hi = n)) :
    (reading (f.rotr n k)).map (fun x => (x.1.emod (n : Int), x.2)) =
      (reading f).map (fun x => ((x.1 + (k : Int)).emod (n : Int), x.2)) := by
  unfold reading
  rw [Feature.rotr_parts, if_neg hsrc, List.flatMap_map, List.map_flatMap, List.map_flatMap]
  refine List.flatMap_congr fun p _ => ?_
  obtain ⟨r, hr⟩ := Part.rotr_eq_shift n k p
  rw [hr, partReading_shift, List.map_map]
  refine List.map_congr_left fun x _ => congrArg (·, x.2) ?_
  -- the whole turns vanish modulo `n`
  show (x.1 + (k - r * n)) % (n : Int) = (x.1 + k) % (n : Int)
  rw [← Int.add_sub_assoc, Int.sub_mul_emod_self_right]

end Moclo.C13
