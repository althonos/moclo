import Moclo.Proofs.Word
/-!
# C15 — a circular record behaves as a circle, never as a line

Model: `ccontains` (`CircularRecord.__contains__`), `pySlice` (`__getitem__(slice)` on the sequence).
**Partial**: `TypeError` on `+`/`radd`, `ValueError` for a record declared linear, slices being plain
`SeqRecord`s without circular topology and copy-on-wrap isolation are Python object behaviour that no
executable model of the logic exhibits; they are decided by the oracle on the implementation.
-/
namespace Moclo.C15
open Moclo
variable {α : Type}

/-- membership is circular: a string is contained exactly when it is no longer than the record and
occurs in some rotation of it -/
theorem contains_iff_in_some_rotation [BEq α] [LawfulBEq α] (w q : List α) :
    ccontains w q = true ↔ q.length ≤ w.length ∧ ∃ k, q <:+: w.rotate k := ccontains_iff w q

/-- … hence in some right rotation `record >> k` as the implementation defines it -/
theorem contains_iff_in_some_rshift [BEq α] [LawfulBEq α] (w q : List α) :
    ccontains w q = true ↔ q.length ≤ w.length ∧ ∃ k : Nat, q <:+: rotr w k := by
  rw [ccontains_iff]
  exact and_congr_right fun _ =>
    ⟨fun ⟨k, h⟩ => ⟨_, rotate_eq_rotr w k ▸ h⟩, fun ⟨k, h⟩ => ⟨_, rotr_eq_rotate w k ▸ h⟩⟩

/-- the answer is the same for every rotation of the record (any integer amount) -/
theorem contains_rotation_invariant [BEq α] [LawfulBEq α] (w q : List α) (k : Int) :
    ccontains (rotrI w k) q = ccontains w q := ccontains_rotrI w q k

/-- a query longer than the record is never contained -/
theorem longer_never_contained [BEq α] [LawfulBEq α] (w q : List α) (h : w.length < q.length) :
    ccontains w q = false := by
  unfold ccontains; rw [decide_eq_false (Nat.not_le.mpr h), Bool.false_and]

/-- a slice is the ordinary list slice of the sequence (never wraps) -/
theorem slice_is_linear (w : List α) (a b : Nat) : pySlice w a b = (w.drop a).take (b - a) := rfl
theorem slice_length (w : List α) (a b : Nat) (h : b ≤ w.length) : (pySlice w a b).length = b - a := by
  unfold pySlice; rw [List.length_take, List.length_drop]; exact Nat.min_eq_left (Nat.sub_le_sub_right h a)

/-! non-vacuity: a query spanning the origin -/
example : ccontains [1, 2, 3, 4] [4, 1] = true := by decide
example : ccontains [1, 2, 3, 4] [4, 1, 2, 3, 4] = false := by decide
example : ccontains [1, 2, 3, 4] [1, 3] = false := by decide

end Moclo.C15
