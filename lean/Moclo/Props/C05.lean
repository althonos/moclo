import Moclo.Proofs.Report
import Moclo.Proofs.Flank
import Moclo.Tables.Kits
import Moclo.Tables.Enzymes
/-!
# C05 — a part type accepts exactly the records with its signature overhangs

Model: `partStructure` (`AbstractPart.structure`) vs `genericStructure`, `ClassSpec.matchSeq`,
`C02.report`; `characterize` as "first candidate whose `is_valid()` is true".
`UniqueFit p w`: the signature-free structure fits the record in exactly one way (one start, one choice of
run lengths) — what "exactly the two recognition sites" gives.  `matchesAt sig text`: the letters of `text`
match the signature under IUPAC rules (`clsMatch`), so degenerate signatures such as `NNNN` are covered.
-/
namespace Moclo.C05
open Moclo

def withPat (c : ClassSpec) (p : Pat) : ClassSpec := { c with pat := p }

/-- what a class reports when its structure is refined: `P` accepts iff `G` does and `G`'s fit is a run of `P`; then
both report the same -/
theorem refined_accepts_iff (c : ClassSpec) {P G : Pat} {w : Word} {i : Nat} {ms : List Nat} {e : Nat}
    (hsub : ∀ {xs ms e}, Run P xs 0 ms e → Run G xs 0 ms e)
    (hfit : UniqueFit G w) (hi : i < w.length) (hr : Run G (window w i) 0 ms e) :
    ((withPat c P).isValid w = true ↔ (withPat c G).isValid w = true ∧ Run P (window w i) 0 ms e) ∧
    ((withPat c P).isValid w = true → C02.report (withPat c P) w = C02.report (withPat c G) w) := by
  obtain ⟨hyes, hno⟩ := UniqueFit.sub hsub hfit hi hr
  have hG : (withPat c G).matchSeq w = _ := C02.matchSeq_of_uniqueFit (c := withPat c G) hfit hi hr
  rw [C02.isValid_iff_ok, C02.isValid_iff_ok]
  by_cases hP : Run P (window w i) 0 ms e
  · have hm : (withPat c P).matchSeq w = (withPat c G).matchSeq w :=
      (C02.matchSeq_of_uniqueFit (c := withPat c P) (hyes hP) hi hP).trans hG.symm
    rw [hm]
    exact ⟨⟨fun h => ⟨h, hP⟩, And.left⟩, fun _ => by unfold C02.report; rw [hm]; rfl⟩
  · rw [C02.matchSeq_of_no_run (c := withPat c P) (hno hP)]
    exact ⟨⟨nofun, fun h => absurd h.2 hP⟩, nofun⟩

/-- **general form**: two structures with three groups that differ only in the fixed-width letters of
groups 1 and 3, the second (`g1'`, `g3'`) at least as specific as the first.  If the first fits the record in
exactly one way then the second accepts the record iff the first does and the texts of groups 1 and 3 match
`g1'` and `g3'`; and then both report the same thing. -/
theorem narrowed_accepts_iff {pre g1 g1' g2 g3 g3' suf : Pat} {k : Nat} (c : ClassSpec) (w : Word)
    (hpre : markless pre) (hg2 : markless g2) (hsuf : markless suf)
    (h1 : isFixed k g1 = true) (h3 : isFixed k g3 = true) (h1' : isFixed k g1' = true) (h3' : isFixed k g3' = true)
    (hsub1 : ∀ ys, matchesAt (letters g1') ys → matchesAt (letters g1) ys)
    (hsub3 : ∀ ys, matchesAt (letters g3') ys → matchesAt (letters g3) ys)
    (hfit : UniqueFit (threeGroup pre g1 g2 g3 suf) w) :
    let cG := withPat c (threeGroup pre g1 g2 g3 suf)
    let cP := withPat c (threeGroup pre g1' g2 g3' suf)
    (cP.isValid w = true ↔ cG.isValid w = true ∧
      ∃ m, cG.matchSeq w = .ok m ∧ matchesAt (letters g1') (m.group w 1) ∧ matchesAt (letters g3') (m.group w 3)) ∧
    (cP.isValid w = true → C02.report cP w = C02.report cG w) := by
  intro cG cP
  have ⟨i, ms, e, hi, hr, _⟩ := hfit
  have hN := fun xs ms e => threeGroup_narrow (xs := xs) (ms := ms) (e := e) hpre hg2 hsuf h1 h3 h1' h3' hsub1 hsub3
  obtain ⟨main, same⟩ := refined_accepts_iff c (fun h => ((hN _ _ _).mp h).1) hfit hi hr
  refine ⟨main.trans (and_congr_right fun hv => ?_), same⟩
  -- `G`'s fit is a run of `P` iff the texts of its groups 1 and 3, `[a1, a1+k)` and `[b2, b2+k)`, match `g1'` and `g3'`
  obtain ⟨a1, b2, rfl, -⟩ := threeGroup_run hpre hg2 hsuf h1 h3 hr
  obtain ⟨m, hm⟩ := (C02.isValid_iff_ok _ _).mp hv
  have hm' := hm
  rw [C02.matchSeq_of_uniqueFit (c := cG) hfit hi hr] at hm'
  split at hm'
  · cases hm'
  cases hm'
  have s1 := matchesAt_slice (letters g1') (window w i) a1
  have s3 := matchesAt_slice (letters g3') (window w i) b2
  rw [letters_length, (isFixed_spec h1').2.1] at s1
  rw [letters_length, (isFixed_spec h3').2.1] at s3
  rw [hN, hm]
  simp only [hr, true_and, Except.ok.injEq, exists_eq_left']
  rw [C02.group_of_run hi hr 1 (.inr ⟨by omega, by simp⟩), C02.group_of_run hi hr 3 (.inr ⟨by omega, by simp⟩)]
  show _ ↔ matchesAt _ (slice _ a1 (a1 + k)) ∧ matchesAt _ (slice _ b2 (b2 + k))
  rw [s1, s3]
  exact ⟨fun ⟨_, _, h, t1, t3⟩ => by
    simp only [List.cons.injEq, and_true] at h; obtain ⟨rfl, -, -, rfl, -⟩ := h; exact ⟨t1, t3⟩,
    fun ⟨t1, t3⟩ => ⟨a1, b2, rfl, t1, t3⟩⟩

/-! ## the generic and the signature-typed structures are such a pair -/

/-- a signature is at least as specific as the wildcard overhang `N^k` -/
theorem sig_narrows (s : List Nt) (ys : Word) (h : matchesAt (letters (lits s)) ys) :
    matchesAt (letters (nRun s.length)) ys := by
  rw [letters_lits] at h
  rw [letters_nRun]
  obtain ⟨h1, h2⟩ := h
  refine ⟨by simpa using h1, fun j hj hj' => ?_⟩
  simp only [List.length_replicate] at hj
  have := h2 j hj hj'
  simp only [List.getElem_replicate]
  exact clsMatch_sub_N _ _ this

/-- **a part type accepts exactly the records with its signature overhangs**: for every geometry, every
signature of overhang length (degenerate ones included) and every record the signature-free structure fits in
exactly one way, the part class accepts the record iff the signature-free class accepts it and the overhangs it
reports match the signature under IUPAC rules — upstream signature against the upstream overhang, downstream
against the downstream one, for modules and vectors alike; and then both classes report the same overhangs,
target and placeholder -/
theorem part_accepts_iff (kind : Kind) (g : Geom) (up down : List Nt) (hu : up.length = g.k) (hd : down.length = g.k)
    (w : Word) (hfit : UniqueFit (genericStructure kind g) w) :
    let cG : ClassSpec := { kind := kind, pat := genericStructure kind g, geom := g }
    let cP : ClassSpec := { kind := kind, pat := partStructure kind g up down, geom := g }
    (cP.isValid w = true ↔ cG.isValid w = true ∧
      ∃ m, cG.matchSeq w = .ok m ∧ matchesAt up (m.group w cG.upGroup) ∧ matchesAt down (m.group w cG.downGroup)) ∧
    (cP.isValid w = true → C02.report cP w = C02.report cG w) := by
  intro cG cP
  obtain ⟨mp, mm, ms⟩ := pieces_markless kind g
  have hs1 : (sig1 kind up down).length = g.k := by cases kind <;> assumption
  have hs3 : (sig3 kind up down).length = g.k := by cases kind <;> assumption
  rw [generic_eq] at hfit
  have main := narrowed_accepts_iff (k := g.k) (g1 := nRun g.k) (g3 := nRun g.k)
    (g1' := lits (sig1 kind up down)) (g3' := lits (sig3 kind up down))
    ({ kind := kind, pat := [], geom := g } : ClassSpec) w mp mm ms
    (isFixed_nRun _) (isFixed_nRun _) (by rw [← hs1]; exact isFixed_lits _) (by rw [← hs3]; exact isFixed_lits _)
    (by intro ys h; have := sig_narrows _ ys h; rwa [hs1] at this)
    (by intro ys h; have := sig_narrows _ ys h; rwa [hs3] at this) hfit
  simp only [withPat, ← generic_eq, ← part_eq, letters_lits] at main
  obtain ⟨m1, m2⟩ := main
  refine ⟨?_, m2⟩
  rw [m1]
  cases kind
  · exact Iff.rfl
  · -- a vector's group 1 is its downstream overhang
    exact and_congr_right fun _ => exists_congr fun _ => and_congr_right fun _ => and_comm

/-- the signature-derived classes of the kits carry exactly this part structure, the plain module / vector
classes the generic one (as the structures are now: kernel-checked on the regenerated table); the same for
user-defined signatures over every supported enzyme -/
theorem kit_structures_derived : ∀ r ∈ Generated.kits, Tables.KitRow.derivedOk r = true :=
  fun r hr => List.all_eq_true.mp Tables.kits_derived r hr

/-- `characterize` returns a candidate type that accepts the record — the first in candidate order — and fails
(`RuntimeError`) exactly when no candidate accepts it -/
theorem characterize_spec (cands : List ClassSpec) (w : Word) :
    (∀ i, characterize cands w = some i →
      ∃ h : i < cands.length, (cands[i]).isValid w = true ∧ ∀ j (hj : j < i), (cands[j]'(by omega)).isValid w = false) ∧
    (characterize cands w = none ↔ ∀ c ∈ cands, c.isValid w = false) := by
  unfold characterize
  constructor
  · intro i hi
    rw [List.findIdx?_eq_some_iff_getElem] at hi
    obtain ⟨h, h1, h2⟩ := hi
    exact ⟨h, h1, fun j hj => by simpa using h2 j hj⟩
  · rw [List.findIdx?_eq_none_iff]

end Moclo.C05
