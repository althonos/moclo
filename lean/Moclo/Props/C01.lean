import Moclo.Proofs.Assembly
import Moclo.Proofs.SameRole
import Moclo.Props.C03
import Moclo.Tables.Enzymes
import Moclo.Proofs.Flank
import Moclo.Proofs.RevComp
import Moclo.Proofs.GenericReport
import Moclo.Props.C02
import Moclo.Proofs.Complete
/-!
# C01 — assembly yields exactly the Golden Gate ligation product

Model: `assemble` (`AssemblyManager`), `ClassSpec.matchSeq/targetOf` (`target_sequence`), the structure
closed forms of `Model/Structure.lean`.

* `product_is_concatenation`: whenever a product is returned its sequence is the concatenation of the
  fragments retained from the modules, in chain order, followed by the fragment retained from the vector —
  nothing else contributes, and the length is the sum of the fragment lengths.  The chain is the one the
  overhang graph defines (C03).
* `structures_are_closed_forms`: for every supported enzyme of `Bio.Restriction` the live `structure()` of
  generic and signature-typed classes is the model's closed form (kernel-checked on the regenerated
  table), i.e. `site N^off (N^k)(N N* N)(N^k) N^off rc(site)` / `N (N^k)(N^off rc(site) N* site N^off)(N^k) N`.
* `wellformed_assembly_succeeds`: the converse; `palindromic_module_never_assembled`; the two
  `*_independent_of_record_names` (the role congruence of `Proofs/SameRole.lean`).
* `module_canonical`, `vector_canonical`: what each fragment *is* for a well-formed plasmid, at every rotation —
  `report_of_parts`, i.e. what a class reports on a plasmid cut into the stretches its unique fit delimits
  (`Proofs/GenericReport.lean`) together with rotation invariance (C02).
-/
namespace Moclo.C01
open Moclo

/-- the product is exactly the chain's fragments followed by the vector's, each module used once, the chain
being a linked path through the overhang graph from the vector's downstream to its upstream overhang -/
theorem product_is_concatenation {v : Ent} {mods : List Ent} {pid pname : Nat} {p : Product} {after : List Rec}
    (h : assemble v mods pid pname = (.ok p, after)) :
    ∃ (gv : GMod Word) (chain : List (GMod Word)),
      v.gmod = .ok gv ∧
      IsPath gv.stop chain gv.start ∧ (keys chain).Nodup ∧ (∀ g ∈ chain, g.start ≠ gv.start) ∧
      (∀ g ∈ chain, ∃ e ∈ mods, e.oid = g.oid ∧ e.gmod = .ok g) ∧
      p.rcd.seq = (chain.map (fun g => fragOfOid mods g.oid)).flatten ++ v.fragment ∧
      p.rcd.seq.length = ((chain.map (fun g => (fragOfOid mods g.oid).length)).sum) + v.fragment.length := by
  obtain ⟨gv, gs, map, chain, rest, h1, h2, h3, h4, h5, h6, h7, _⟩ := assemble_ok h
  obtain ⟨hkn, _, _⟩ := gBuild_ok h4
  obtain ⟨hperm, hns, hpath⟩ := ((gWalk_eq_iff (Nat.lt_succ_self _)).mp h6).spec
  obtain ⟨hkc, _, _⟩ := keys_nodup_split hkn hperm
  refine ⟨gv, chain, h1, hpath, hkc, hns, chain_src h3 h4 h6, h7, ?_⟩
  rw [h7, List.length_append, List.length_flatten, List.map_map]
  rfl

/-- **the converse — a well-formed assembly does yield the product**: distinct module objects accepted by
their classes, whose overhang keys contain a chain from the vector's downstream to its upstream overhang (no
two modules starting alike, no reverse-complementary starts), well-formed citations: `assemble` returns a
product, its sequence is the concatenation of the chain's fragments followed by the vector's, and the unused
modules are exactly those outside the chain.  With `module_canonical` / `vector_canonical` for the fragments
this is the documented formula `o5₁·t₁ ⋯ o5ₖ·tₖ · o3ᵥ·backbone` -/
theorem wellformed_assembly_succeeds {v : Ent} {mods : List Ent} (pid pname : Nat) {gv : GMod Word}
    {gs chain : List (GMod Word)}
    (h1 : v.gmod = .ok gv) (hF : List.Forall₂ (fun e g => e.gmod = .ok g) mods gs)
    (hoid : (mods.map (·.oid)).Nodup) (hne : gv.start ≠ gv.stop)
    (hsf : StartFree gs) (hrc : C03.NoRc rc gs) (hc : C03.Chain gs gv.stop chain gv.start)
    (hd : ∀ e ∈ mods, (derefRec e.rcd).isSome) (hdv : (derefRec v.rcd).isSome)
    (hf : ∀ e ∈ mods, e.faulty = false) (hvf : v.faulty = false) :
    ∃ p, (assemble v mods pid pname).1 = .ok p ∧
      p.rcd.seq = (chain.map (fun g => fragOfOid mods g.oid)).flatten ++ v.fragment ∧
      (∀ o, o ∈ p.unused ↔ ∃ g ∈ gs, g ∉ chain ∧ g.oid = o) :=
  assemble_complete pid pname h1 hF hoid hne hsf hrc hc hd hdv hf hvf

/-- for every supported enzyme the structures the classes are matched with are the documented closed
forms (generic module / vector, and signature-typed parts for two signatures each) -/
theorem structures_are_closed_forms :
    ∀ r ∈ Generated.enzymes,
      r.modS = moduleStructure (Tables.EnzRow.geom r) ∧ r.vecS = vectorStructure (Tables.EnzRow.geom r) ∧
      r.fst3 = (r.fst5 - r.site.length) + r.k ∧ 1 ≤ r.k ∧ 1 ≤ r.site.length ∧ r.site.length ≤ r.fst5 := by
  intro r hr
  obtain ⟨-, a, b, c, d, e, f, -⟩ := Tables.enzymes_spec hr
  exact ⟨e, f, d, c, b, a⟩

/-- letters the wildcard `N` accepts (A, C, G, T, N in either case) -/
def Plain (w : Word) : Prop := ∀ x ∈ w, clsMatch .N x = true

theorem Plain_append (a b : Word) : Plain (a ++ b) ↔ Plain a ∧ Plain b := List.forall_mem_append

theorem Plain_of_matchesAt {cs : List Nt} {A : Word} (hc : ∀ c ∈ cs, c = .N) (h : matchesAt cs A) (hl : A.length = cs.length) :
    Plain A := fun x hx => by
  obtain ⟨j, hj, rfl⟩ := List.getElem_of_mem hx
  exact hc _ (List.getElem_mem (hl ▸ hj)) ▸ h.2 j (hl ▸ hj) hj

theorem report_of_parts {c : ClassSpec} (h3 : C02.ThreeGroups c.pat) {P0 G1 G2 G3 P4 R : Word}
    (hr : Run c.pat (P0 ++ G1 ++ G2 ++ G3 ++ P4 ++ R) 0
      [P0.length, (P0 ++ G1).length, (P0 ++ G1).length, (P0 ++ G1 ++ G2).length, (P0 ++ G1 ++ G2).length,
        (P0 ++ G1 ++ G2 ++ G3).length] (P0 ++ G1 ++ G2 ++ G3 ++ P4).length)
    (hu : UniqueFit c.pat (P0 ++ G1 ++ G2 ++ G3 ++ P4 ++ R)) (r : Nat) :
    C02.report c (rotr (P0 ++ G1 ++ G2 ++ G3 ++ P4 ++ R) r) =
      if validCuts c.geom (P0 ++ G1 ++ G2 ++ G3 ++ P4) > 2 then .error .illegal
      else .ok (match c.kind with
        | .module => (G1, G3, G1 ++ G2, G1 ++ G2)
        | .vector => (G3, G1, G3 ++ P4 ++ R ++ P0, G1 ++ G2)) := by
  rw [C02.report_rotr c _ r h3 hu.uniqueStart]
  exact report_of_parts_at h3 hu (by obtain ⟨i, _, _, hi, _⟩ := hu; omega) (window_zero _) hr

/-- **what a well-formed module is typed as, for every geometry, every sequence and every rotation**:
let the plasmid be any rotation of `site·x·o5·t·o3·y·rc(site)·b` with `|x| = |y| = off`, `|o5| = |o3| = k`,
`|t| ≥ 2`, carrying exactly the structure once (`UniqueFit`) and passing the illegal-site screen.  Then the
generic module class reports upstream overhang `o5`, downstream overhang `o3` and target `o5·t` — module
backbone and recognition sites contribute nothing -/
theorem module_canonical (g : Geom) (S x o5 t o3 y S' b : Word)
    (hS : matchesAt g.site S) (hSl : S.length = g.site.length)
    (hS' : matchesAt (rcNt g.site) S') (hS'l : S'.length = g.site.length)
    (hx : x.length = g.off) (hy : y.length = g.off) (ho5 : o5.length = g.k) (ho3 : o3.length = g.k)
    (ht : 2 ≤ t.length) (hplain : Plain (x ++ o5 ++ t ++ o3 ++ y))
    (hfit : UniqueFit (moduleStructure g) (S ++ x ++ o5 ++ t ++ o3 ++ y ++ S' ++ b))
    (hscreen : validCuts g (S ++ x ++ o5 ++ t ++ o3 ++ y ++ S') ≤ 2) (r : Nat) :
    C02.report { kind := .module, pat := moduleStructure g, geom := g }
      (rotr (S ++ x ++ o5 ++ t ++ o3 ++ y ++ S' ++ b) r) = .ok (o5, o3, o5 ++ t, o5 ++ t) := by
  obtain ⟨ms, hrun⟩ := module_fits_mid g S (x ++ o5 ++ t ++ o3 ++ y) S' hS hSl hS' hS'l hplain
    (by simp only [List.length_append, hx, hy, ho5, ho3]; omega)
  have hrun := hrun.extend b
  obtain ⟨rfl, -⟩ := module_run_marks g hrun
  have key := report_of_parts (c := ⟨.module, moduleStructure g, g⟩) (C02.generic_three_groups .module g)
    (P0 := S ++ x) (G1 := o5) (G2 := t) (G3 := o3) (P4 := y ++ S') (R := b)
  simp only [List.append_assoc] at key hrun hfit hscreen ⊢
  -- the marks `module_run_marks` computes from the end are the lengths of `P0`, `P0·G1`, … that `report_of_parts` asks
  -- for; the `if` is the screen, which `hscreen` passes
  rw [key (by convert hrun using 2 <;> simp [*]; omega) hfit r, if_neg (by omega)]

/-- **what a well-formed vector is typed as**: let the plasmid be any rotation of
`c0·o5·y·rc(site)·p·site·x·o3·c1·b` (i.e. of the documented `o3·B·o5·y·rc(site)·p·site·x` with backbone
`B = c1·b·c0`, `|B| ≥ 2`), `|x| = |y| = off`, `|o5| = |o3| = k`, carrying the structure exactly once and passing
the screen.  Then the generic vector class reports upstream overhang `o3`, downstream overhang `o5`, target
`o3·c1·b·c0` — the vector backbone with its upstream overhang — and placeholder `o5·y·rc(site)·p·site·x`; the
placeholder contributes nothing to an assembly -/
theorem vector_canonical (g : Geom) (c0 c1 : Sym) (o5 y S' p S x o3 b : Word)
    (hS : matchesAt g.site S) (hSl : S.length = g.site.length)
    (hS' : matchesAt (rcNt g.site) S') (hS'l : S'.length = g.site.length)
    (hx : x.length = g.off) (hy : y.length = g.off) (ho5 : o5.length = g.k) (ho3 : o3.length = g.k)
    (hplain : Plain ([c0] ++ o5 ++ y ++ p ++ x ++ o3 ++ [c1]))
    (hfit : UniqueFit (vectorStructure g) ([c0] ++ o5 ++ y ++ S' ++ p ++ S ++ x ++ o3 ++ [c1] ++ b))
    (hscreen : validCuts g ([c0] ++ o5 ++ y ++ S' ++ p ++ S ++ x ++ o3 ++ [c1]) ≤ 2) (r : Nat) :
    C02.report { kind := .vector, pat := vectorStructure g, geom := g }
      (rotr ([c0] ++ o5 ++ y ++ S' ++ p ++ S ++ x ++ o3 ++ [c1] ++ b) r)
      = .ok (o3, o5, o3 ++ [c1] ++ b ++ [c0], o5 ++ (y ++ S' ++ p ++ S ++ x)) := by
  simp only [Plain_append] at hplain
  obtain ⟨⟨⟨⟨⟨⟨p0, p5⟩, py⟩, pp⟩, px⟩, p3⟩, p1⟩ := hplain
  obtain ⟨ms, hrun⟩ := vector_fits g ([c0] ++ o5 ++ y) S' p S (x ++ o3 ++ [c1]) hS hSl hS' hS'l
    ((Plain_append _ _).mpr ⟨(Plain_append _ _).mpr ⟨p0, p5⟩, py⟩) (by simp [ho5, hy]; omega) pp
    ((Plain_append _ _).mpr ⟨(Plain_append _ _).mpr ⟨px, p3⟩, p1⟩) (by simp [hx, ho3]; omega)
  have hrun := hrun.extend b
  obtain ⟨rfl, -⟩ := vector_run_marks g hrun
  have key := report_of_parts (c := ⟨.vector, vectorStructure g, g⟩) (C02.generic_three_groups .vector g)
    (P0 := [c0]) (G1 := o5) (G2 := y ++ S' ++ p ++ S ++ x) (G3 := o3) (P4 := [c1]) (R := b)
  simp only [List.append_assoc] at key hrun hfit hscreen ⊢
  rw [key (by convert hrun using 2 <;> simp [*]; omega) hfit r, if_neg (by omega)]

/-- **what is ligated does not depend on what the records are called**: the same objects under any other record
identifiers — all different, all equal (records built in code, exports without an accession, products left at the
default id) — assemble whenever the original inputs do, to the same sequence, leaving the same modules unused -/
theorem product_independent_of_record_names {v v' : Ent} {mods mods' : List Ent} {pid pname : Nat} {p : Product}
    {after : List Rec} (hv : SameButName v v') (hm : List.Forall₂ SameButName mods mods')
    (h : assemble v mods pid pname = (.ok p, after)) :
    ∃ p', (assemble v' mods' pid pname).1 = .ok p' ∧ p'.rcd.seq = p.rcd.seq ∧ p'.unused = p.unused :=
  assemble_sameRole h hv.sameRole (hm.imp fun _ _ h => h.sameRole)

/-- … and they fail together too, with the same error -/
theorem outcome_independent_of_record_names {v v' : Ent} {mods mods' : List Ent} (pid pname : Nat)
    (hv : SameButName v v') (hm : List.Forall₂ SameButName mods mods') :
    OutcomeSame (assemble v mods pid pname).1 (assemble v' mods' pid pname).1 :=
  assemble_sameRole_outcome pid pname hv.sameRole (hm.imp fun _ _ h => h.sameRole)

/-- **a module whose start overhang is its own reverse complement is never ligated** — whatever else is supplied,
whatever the vector: such an assembly returns no product (at the level of records, not only of the overhang graph) -/
theorem palindromic_module_never_assembled {v : Ent} {mods : List Ent} {pid pname : Nat} {e : Ent} {g : GMod Word}
    (he : e ∈ mods) (hg : e.gmod = .ok g) (hp : rc g.start = g.start) :
    ∀ p after, assemble v mods pid pname ≠ (.ok p, after) := by
  intro p after h
  obtain ⟨gv, gs, map, chain, rest, _, _, h3, h4, h5, _⟩ := assemble_ok h
  have hgs : g ∈ gs := evalPrefix_mem mods gs h3 e he g hg
  exact (gRcClash_of_build rc h4).mp h5 g hgs g hgs hp.symm

/-! non-vacuity: a complete BsaI-like assembly on a toy geometry (site `GA`, off 1, k 2) evaluated by the
model: vector `N(NN)(N TC N* GA N)(NN)N`, one module, product = module fragment ++ vector fragment -/
section example_
def g : Geom := { site := [.G, .A], off := 1, k := 2 }
def wordOf (s : List Nt) : Word := s.map (fun n => ⟨n, false⟩)
-- module  GA·C·AC·AAA·CA·C·TC·GG    (o5 = AC, target AAA, o3 = CA)
def mrec : Rec := { rid := 1, seq := wordOf [.G,.A,.C,.A,.C,.A,.A,.A,.C,.A,.C,.T,.C,.G,.G], feats := [], refs := [] }
-- vector  CA·CCCC·AC·C·TC·T·GA·C    (o3 = CA upstream, backbone CCCC, o5 = AC downstream)
def vrec : Rec := { rid := 0, seq := wordOf [.C,.A,.C,.C,.C,.C,.A,.C,.C,.T,.C,.T,.G,.A,.C], feats := [], refs := [] }
def ment : Ent := { oid := 1, spec := { kind := .module, pat := moduleStructure g, geom := g }, rcd := mrec }
def vent : Ent := { oid := 0, spec := { kind := .vector, pat := vectorStructure g, geom := g }, rcd := vrec }
example : ((assemble vent [ment] 7 7).1.toOption.map (fun p => p.rcd.seq)) =
    some (wordOf [.A,.C,.A,.A,.A, .C,.A,.C,.C,.C,.C]) := by decide +kernel
-- the same two plasmids, both called 5
example : ((assemble { vent with rcd := { vrec with rid := 5 } } [{ ment with rcd := { mrec with rid := 5 } }] 7 7).1.toOption.map
    (fun p => p.rcd.seq)) = some (wordOf [.A,.C,.A,.A,.A, .C,.A,.C,.C,.C,.C]) := by decide +kernel
end example_

end Moclo.C01
