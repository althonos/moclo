import Moclo.Generated.Enzymes3
import Moclo.Proofs.TableLemmas
import Moclo.Proofs.Cut
/-! Kernel-checked tie between the live `structure()` of signature-typed classes over every single-cut
3'-overhang enzyme and the model's closed forms: the same `modulePartStructure` / `vectorPartStructure` as for
a 5' cutter with the same `(site, off, k)`, where `off = fst3` and `fst5 = |site| + off + k`. -/
namespace Moclo.Tables
open Moclo Moclo.Generated

def Enz3Row.geom (r : Enz3Row) : Geom := { site := r.site, off := r.fst3, k := r.k }

def Enz3Row.ok (r : Enz3Row) : Bool :=
  r.is3 && decide (1 ≤ r.site.length) && decide (1 ≤ r.k) &&
  r.fst5 == r.site.length + r.fst3 + r.k &&
  r.modP == modulePartStructure (Enz3Row.geom r) r.up r.down &&
  r.vecP == vectorPartStructure (Enz3Row.geom r) r.up r.down &&
  r.modP2 == modulePartStructure (Enz3Row.geom r) r.up2 r.down2 &&
  r.vecP2 == vectorPartStructure (Enz3Row.geom r) r.up2 r.down2 &&
  cutAligned (Enz3Row.geom r) r.modP && cutAligned (Enz3Row.geom r) r.vecP

theorem enzymes3_closed : enzymes3.all (fun r =>
    r.is3 && decide (1 ≤ r.site.length) && decide (1 ≤ r.k) &&
    r.fst5 == r.site.length + r.fst3 + r.k &&
    r.modP == modulePartStructure (Enz3Row.geom r) r.up r.down &&
    r.vecP == vectorPartStructure (Enz3Row.geom r) r.up r.down &&
    r.modP2 == modulePartStructure (Enz3Row.geom r) r.up2 r.down2 &&
    r.vecP2 == vectorPartStructure (Enz3Row.geom r) r.up2 r.down2 &&
    r.up.length == r.k && r.down.length == r.k) = true := by
  simp only [modulePartStructure_assoc, vectorPartStructure_assoc]
  decide +kernel

/-- the closed forms are checked on the table (`enzymes3_closed`); they are cut-aligned for every geometry -/
theorem enzymes3_ok : enzymes3.all Enz3Row.ok = true := by
  refine List.all_eq_true.mpr fun r hr => ?_
  have h := List.all_eq_true.mp enzymes3_closed r hr
  simp only [Enz3Row.ok, Bool.and_eq_true, beq_iff_eq] at h ⊢
  obtain ⟨⟨⟨⟨⟨⟨h0, hP⟩, hVP⟩, hP2⟩, hVP2⟩, hu⟩, hd⟩ := h
  refine ⟨⟨⟨⟨⟨⟨h0, hP⟩, hVP⟩, hP2⟩, hVP2⟩, ?_⟩, ?_⟩
  · rw [hP]; exact cutAligned_part .module _ _ _ hu hd
  · rw [hVP]; exact cutAligned_part .vector _ _ _ hu hd

/-- every tabulated site is spelt with nucleotides only and is not its own reverse complement -/
theorem enzymes3_sites : enzymes3.all (fun r => r.site.all Nt.isBase && (r.site != rcNt r.site)) = true := by decide +kernel

theorem enzymes3_nonempty : 20 ≤ enzymes3.length := by decide +kernel

end Moclo.Tables
