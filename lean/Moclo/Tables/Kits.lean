import Moclo.Generated.Kits
import Moclo.Proofs.TableLemmas
/-! Kernel-checked facts about the live `structure()` of the 85 concrete kit classes. -/
namespace Moclo.Tables
open Moclo Moclo.Generated

def KitRow.geom (r : KitRow) : Geom := { site := r.site, off := r.off, k := r.k }

/-- signature-derived classes carry exactly the model's part structure; plain module / vector classes the
generic one -/
def KitRow.derivedOk (r : KitRow) : Bool :=
  match r.sig with
  | some (u, d) => r.pat == partStructure r.kind (KitRow.geom r) u d
  | none => if r.generic then r.pat == genericStructure r.kind (KitRow.geom r) else true

theorem kits_derived : kits.all KitRow.derivedOk = true := by
  unfold KitRow.derivedOk partStructure genericStructure
  simp only [moduleStructure_assoc, vectorStructure_assoc, modulePartStructure_assoc, vectorPartStructure_assoc]
  decide +kernel
theorem kits_5prime : kits.all (fun r => r.is5 && decide (1 ≤ r.k)) = true := by decide +kernel
theorem kits_flat : kits.all (fun r => flatGroups r.pat false) = true := by decide +kernel
/-- every kit class records exactly three capture groups -/
theorem kits_three_groups : kits.all (fun r => nmarks r.pat == 6) = true := by decide +kernel
/-- every kit class is cut-aligned with respect to its own cutter (hand-written structures included) -/
theorem kits_cutAligned : kits.all (fun r => cutAligned (KitRow.geom r) r.pat) = true := by decide +kernel
/-- every bundled vector type that embeds the next level's sites has the next-level layout for the cutter of
the kit's next-level module class -/
theorem kits_nextLevel : nextLevelPairs.all (fun ij =>
    match kits[ij.1]?, kits[ij.2]? with
    | some v, some m => nextLevelOK (KitRow.geom m) v.k v.pat && (m.pat == moduleStructure (KitRow.geom m))
    | _, _ => false) = true := by decide +kernel
/-- the cutters of the kits: sites spelt with nucleotides only, non-palindromic -/
theorem kits_sites : kits.all (fun r => r.site.all Nt.isBase && (r.site != rcNt r.site)) = true := by decide +kernel
theorem kits_count : 85 ≤ kits.length := by decide +kernel

/-- the YTK pair as the classes are now: the product's structure is the closed form `ytkProductPat`, the
next-level class (`YTKEntry`) is matched with the generic module structure of BsaI, the entry vector's cutter
is the product's -/
theorem kits_ytk :
    (match kits[ytkPair.1]?, kits[ytkPair.2.1]?, kits[ytkPair.2.2]? with
     | some v, some prod, some nxt =>
        (prod.pat == ytkProductPat) && (nxt.pat == moduleStructure bsaI) && (nxt.site == bsaI.site) &&
        (nxt.off == bsaI.off) && (nxt.k == bsaI.k) && (v.site == prod.site) && (v.k == 4) && (prod.k == 4)
     | _, _, _ => false) = true := by decide +kernel

end Moclo.Tables
