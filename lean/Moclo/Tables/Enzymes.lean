import Moclo.Generated.Enzymes
import Moclo.Proofs.TableLemmas
import Moclo.Proofs.Cut
/-! Kernel-checked tie between the live `structure()` of generic and signature-typed classes over every
supported enzyme and the model's closed forms (`moduleStructure`, `vectorStructure`,
`modulePartStructure`, `vectorPartStructure`). -/
namespace Moclo.Tables
open Moclo Moclo.Generated

def EnzRow.geom (r : EnzRow) : Geom := { site := r.site, off := r.fst5 - r.site.length, k := r.k }

def EnzRow.ok (r : EnzRow) : Bool :=
  r.is5 && decide (r.site.length ≤ r.fst5) && decide (1 ≤ r.site.length) && decide (1 ≤ r.k) &&
  r.fst3 == (r.fst5 - r.site.length) + r.k &&
  r.modS == moduleStructure (EnzRow.geom r) && r.vecS == vectorStructure (EnzRow.geom r) &&
  r.modP == modulePartStructure (EnzRow.geom r) r.up r.down &&
  r.vecP == vectorPartStructure (EnzRow.geom r) r.up r.down &&
  r.modP2 == modulePartStructure (EnzRow.geom r) r.up2 r.down2 &&
  r.vecP2 == vectorPartStructure (EnzRow.geom r) r.up2 r.down2

theorem enzymes_ok : enzymes.all EnzRow.ok = true := by
  unfold EnzRow.ok
  simp only [moduleStructure_assoc, vectorStructure_assoc, modulePartStructure_assoc, vectorPartStructure_assoc]
  decide +kernel

theorem enzymes_spec {r : EnzRow} (hr : r ∈ enzymes) :
    r.is5 = true ∧ r.site.length ≤ r.fst5 ∧ 1 ≤ r.site.length ∧ 1 ≤ r.k ∧
    r.fst3 = (r.fst5 - r.site.length) + r.k ∧
    r.modS = moduleStructure (EnzRow.geom r) ∧ r.vecS = vectorStructure (EnzRow.geom r) ∧
    r.modP = modulePartStructure (EnzRow.geom r) r.up r.down ∧
    r.vecP = vectorPartStructure (EnzRow.geom r) r.up r.down ∧
    r.modP2 = modulePartStructure (EnzRow.geom r) r.up2 r.down2 ∧
    r.vecP2 = vectorPartStructure (EnzRow.geom r) r.up2 r.down2 := by
  simpa only [EnzRow.ok, Bool.and_eq_true, decide_eq_true_eq, beq_iff_eq, and_assoc] using
    List.all_eq_true.mp enzymes_ok r hr

theorem enzymes_sigs : enzymes.all (fun r => r.up.length == r.k && r.down.length == r.k) = true := by decide +kernel

/-- the generic and the signature-typed structures over every supported enzyme are cut-aligned: they are the closed
forms (`enzymes_ok`), which are cut-aligned for every geometry -/
theorem enzymes_cutAligned : enzymes.all (fun r => cutAligned (EnzRow.geom r) r.modS && cutAligned (EnzRow.geom r) r.vecS
    && cutAligned (EnzRow.geom r) r.modP && cutAligned (EnzRow.geom r) r.vecP) = true := by
  refine List.all_eq_true.mpr fun r hr => ?_
  obtain ⟨-, -, -, -, -, hS, hV, hP, hVP, -⟩ := enzymes_spec hr
  have hl := List.all_eq_true.mp enzymes_sigs r hr
  simp only [Bool.and_eq_true, beq_iff_eq] at hl ⊢
  rw [hS, hV, hP, hVP]
  exact ⟨⟨⟨cutAligned_generic .module _, cutAligned_generic .vector _⟩, cutAligned_part .module _ _ _ hl.1 hl.2⟩,
    cutAligned_part .vector _ _ _ hl.1 hl.2⟩

/-- every supported site is spelt with nucleotides only and is not its own reverse complement -/
theorem enzymes_sites : enzymes.all (fun r => r.site.all Nt.isBase && (r.site != rcNt r.site)) = true := by decide +kernel

theorem enzymes_nonempty : 20 ≤ enzymes.length := by decide +kernel

end Moclo.Tables
