import Moclo.Generated.Registries
/-! Kernel-checked coherence of the embedded registries as they load now (C20, exhaustive).
Strings are extracted as single natural numbers (UTF-8 bytes behind a leading 0x01), an injective
encoding, so key equality and duplicate-freedom are decided by the kernel on numbers. -/
namespace Moclo.Tables
open Moclo.Generated

/-- "Kanamycin", "Chloramphenicol", "Ampicillin", "Spectinomycin" in the extractor's encoding -/
def knownResistance : List Nat := [0x14b616e616d7963696e, 0x143686c6f72616d7068656e69636f6c, 0x1416d706963696c6c696e, 0x15370656374696e6f6d7963696e]

def memN (x : Nat) : List Nat → Bool
  | [] => false
  | y :: ys => Nat.beq x y || memN x ys

def nodupN : List Nat → Bool
  | [] => true
  | x :: xs => !(memN x xs) && nodupN xs

/-- length = number of keys; keys pairwise distinct; every key looks up an item whose id and whose
record id are the key, whose record is circular and whose resistance is a known antibiotic -/
def RegTable.ok (t : RegTable) : Bool :=
  Nat.beq t.len t.rows.length &&
  nodupN (t.rows.map (·.1)) &&
  t.rows.all (fun r => Nat.beq r.1 r.2.1 && Nat.beq r.1 r.2.2.1 && r.2.2.2.1 && memN r.2.2.2.2 knownResistance)

theorem registries_ok : registries.all RegTable.ok = true := by decide +kernel
/-- every cassette tag of the live table selects a known antibiotic -/
theorem antibiotics_known : antibiotics.all (fun e => memN e.2 knownResistance) = true := by decide +kernel
theorem antibiotics_nonempty : 4 ≤ antibiotics.length := by decide +kernel

theorem registries_count : registries.length = 5 := by decide +kernel
theorem registries_nonempty : registries.all (fun t => decide (10 ≤ t.rows.length)) = true := by decide +kernel

theorem memN_iff {x : Nat} {l : List Nat} : memN x l = true ↔ x ∈ l := by
  induction l with
  | nil => simp [memN]
  | cons y ys ih => simp [memN, ih]

theorem nodupN_sound {l : List Nat} (h : nodupN l = true) : l.Nodup := by
  induction l with
  | nil => exact List.nodup_nil
  | cons x xs ih =>
    rw [nodupN, Bool.and_eq_true, Bool.not_eq_true', ← Bool.not_eq_true, memN_iff] at h
    exact List.nodup_cons.mpr ⟨h.1, ih h.2⟩

end Moclo.Tables
